import SeliumModel.Lemmas.Decode
/-
`tokio_util::codec::FramedRead<_, MessageCodec>` as a function from what the transport delivers (a list of
reads) to the sequence of items the stream yields before its first `None`.
States reading/framing/pausing/paused/errored of `framed_impl.rs` collapse to: drain everything decodable
after each read; at EOF run `decode_eof` (leftover bytes are an error); an error is yielded once, then `None`.
-/
namespace Selium.Wire
open Selium

inductive Item where
  | frame (f : Frame)
  | error (e : String)
  | panic (site : String)   -- the decoder panicked (shown impossible by `c06_stream_total`)
  deriving Repr

inductive Read where
  | data (b : Bytes)     -- n > 0 bytes
  | eof                  -- a read of 0 bytes
  | pending
  deriving Repr

/-- Emit every frame decodable from the buffer. `some leftover`: stopped because more bytes are needed;
    `none`: stopped on an error (which is the last item). -/
def drain (buf : Bytes) : List Item × Option Bytes :=
  match h : decode buf with
  | .ok (some f, rest) =>
    have : rest.length < buf.length := decode_shrinks buf f rest h
    let r := drain rest
    (.frame f :: r.1, r.2)
  | .ok (none, _) => ([], some buf)
  | .err e => ([.error e], none)
  | .panic s => ([.panic s], none)
termination_by buf.length

/-- Items yielded up to the first `None`, starting in the `reading` state with `buf` buffered. -/
def run (buf : Bytes) : List Read → List Item
  | [] => []
  | .pending :: rs => run buf rs
  | .data c :: rs =>
    let r := drain (buf ++ c)
    match r.2 with
    | some left => r.1 ++ run left rs
    | none => r.1
  | .eof :: _ =>
    let r := drain buf
    match r.2 with
    | some left => if left.isEmpty then r.1 else r.1 ++ [.error "bytes remaining on stream"]
    | none => r.1

end Selium.Wire
