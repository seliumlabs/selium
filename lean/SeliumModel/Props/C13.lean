/-
C13 — Backoff schedules follow their law, are clamped, finite and panic-free.

Model: `SeliumModel/Backoff.lean` (hand model of `BackoffStrategyIter::next`, tied to the code by the `backoff`
correspondence suite); constants from `Gen/Backoff.lean`.
Hypotheses `hstep`/`hatt` are exactly the ranges of the Rust types (`Duration`, `u32`).
-/
import SeliumModel.Lemmas.Backoff

namespace Selium.Backoff

/-- The delay the property prescribes for attempt `i` (1-based): the law, saturated at `Duration::MAX`,
    then clamped to the configured maximum. -/
def specDelay (c : Cfg) (i : Nat) : Nat := clamp c (min (law c i) DMAX)

/-- Exactly the configured number of attempts. -/
theorem c13_length (c : Cfg) : (schedule c).length = c.maxAttempts := schedule_length c

/-- The whole schedule, in one equation: attempt `i+1` carries number `i+1`, the configured
    `max_attempts`, and the delay given by the (saturated, clamped) law. Holds for every strategy,
    step, factor, attempt count and optional maximum within the ranges of the Rust types. -/
theorem c13_schedule (c : Cfg) (hstep : c.step ≤ DMAX) (hatt : c.maxAttempts ≤ U32MAX) :
    schedule c = (List.range c.maxAttempts).map (fun i =>
      ({ duration := specDelay c (i + 1), attemptNum := i + 1, maxAttempts := c.maxAttempts } : Attempt)) := by
  rw [schedule_eq, List.range'_eq_map_range, List.map_map]
  apply List.map_congr_left
  intro i hi
  have hmod : (i + 1) % (U32MAX + 1) = i + 1 :=
    Nat.mod_eq_of_lt (Nat.succ_lt_succ (Nat.lt_of_lt_of_le (List.mem_range.mp hi) hatt))
  simp only [Function.comp, attemptAt, specDelay, Nat.add_comm 1 i, hmod, rawDelay_spec c (i + 1) hstep]

/-- Numbered from 1. -/
theorem c13_numbering (c : Cfg) (hstep : c.step ≤ DMAX) (hatt : c.maxAttempts ≤ U32MAX)
    (i : Nat) (hi : i < (schedule c).length) :
    ((schedule c)[i]).attemptNum = i + 1 := by
  simp [c13_schedule c hstep hatt]

/-- Each delay follows the chosen law (constant: step; linear: step·attempt; exponential:
    step·factor^(attempt−1)), saturated at `Duration::MAX` and clamped. -/
theorem c13_law (c : Cfg) (hstep : c.step ≤ DMAX) (hatt : c.maxAttempts ≤ U32MAX)
    (i : Nat) (hi : i < (schedule c).length) :
    ((schedule c)[i]).duration = specDelay c (i + 1) := by
  simp [c13_schedule c hstep hatt]

/-- No delay exceeds the configured maximum. -/
theorem c13_clamped (c : Cfg) (m : Nat) (hm : c.maxDuration = some m) :
    ∀ a ∈ schedule c, a.duration ≤ m := by
  rw [schedule_eq, List.forall_mem_map]
  intro i _
  simp only [attemptAt, clamp, hm]
  exact Nat.min_le_right _ _

/-- Nothing wraps: every delay is a representable `Duration`, whatever the factor, step or attempt count. -/
theorem c13_representable (c : Cfg) (hstep : c.step ≤ DMAX) (hatt : c.maxAttempts ≤ U32MAX) :
    ∀ a ∈ schedule c, a.duration ≤ DMAX := by
  rw [c13_schedule c hstep hatt, List.forall_mem_map]
  intro i _
  simp only [specDelay, clamp]
  cases c.maxDuration with
  | none => exact Nat.min_le_right _ _
  | some m => exact Nat.le_trans (Nat.min_le_left _ _) (Nat.min_le_right _ _)

/-- When the un-saturated law would overflow a `Duration`, the delay is the maximum delay if one is
    set (and it is below `Duration::MAX`), else `Duration::MAX`. -/
theorem c13_saturates (c : Cfg) (i : Nat) (hover : DMAX ≤ law c i) :
    specDelay c i = match c.maxDuration with | some m => min DMAX m | none => DMAX := by
  simp only [specDelay, clamp, Nat.min_eq_right hover]
  cases c.maxDuration <;> rfl

/-- The iterator is finite: after `maxAttempts` draws `next` returns `none`, and keeps doing so. -/
theorem c13_exhausted (c : Cfg) (cur : Nat) (h : c.maxAttempts < cur) : next c cur = none := next_of_gt c cur h

/-! Non-vacuity: the hypotheses are met by concrete, non-trivial configurations, including the ones the
    unrepaired code panicked on (exponential(2) with 70 attempts; linear with a `Duration::MAX` step). -/

example : (schedule { strategy := .exponential 2, step := 2 * NANOS, maxAttempts := 6,
                      maxDuration := some (8 * NANOS) }).map (·.duration)
    = [2 * NANOS, 4 * NANOS, 8 * NANOS, 8 * NANOS, 8 * NANOS, 8 * NANOS] := by decide +kernel

example : ((schedule { strategy := .exponential 2, step := NANOS, maxAttempts := 70,
                       maxDuration := none }).map (·.duration)).getLast? = some DMAX := by decide +kernel

example : (schedule { strategy := .linear, step := DMAX, maxAttempts := 2, maxDuration := none }).map
    (·.duration) = [DMAX, DMAX] := by decide +kernel

example : (schedule (Cfg.default .linear)).length = 5 := by decide +kernel

end Selium.Backoff

#print axioms Selium.Backoff.c13_length
#print axioms Selium.Backoff.c13_schedule
#print axioms Selium.Backoff.c13_numbering
#print axioms Selium.Backoff.c13_law
#print axioms Selium.Backoff.c13_clamped
#print axioms Selium.Backoff.c13_representable
#print axioms Selium.Backoff.c13_saturates
#print axioms Selium.Backoff.c13_exhausted
