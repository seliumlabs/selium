/-
C09 — Topic routers never spin and never sleep on undone work.

Pub/sub half. "Bounded work per step": one `poll` needs at most `work s + 1` iterations of its loop, where
`work s` counts the registrations queued in the channel and the answers the publisher streams still hold.
"Never sleeps on undone work": whenever a poll returns Pending it is in one of three situations, each with a
waker in place — blocked on a subscriber sink that answered Pending (that sink holds the waker), waiting for
publisher streams (the registration channel has been drained and holds the waker, and every remaining stream
was polled), or idle (same, and nothing at all is outstanding).
-/
import SeliumModel.Lemmas.PubSub
import SeliumModel.Lemmas.PubSubPeers
import SeliumModel.Lemmas.PubSubProgress
import SeliumModel.Lemmas.ReqRepParked
import SeliumModel.Lemmas.ReqRepExecutor
import SeliumModel.Lemmas.ReqRepIdle

namespace Selium.Route
open Selium.Sink
variable {α : Type}

/-- One step performs work bounded by the data currently available and then yields. -/
theorem c09_pubsub_terminates (oracle : List Nat) (s : PS α) :
    (pollFuel (work s + 1) oracle s).1 ≠ .outOfFuel :=
  pollFuel_terminates (work s + 1) oracle s (Nat.lt_succ_self _)

/-- … and more fuel changes nothing about that. -/
theorem c09_pubsub_terminates_any (fuel : Nat) (oracle : List Nat) (s : PS α) (h : work s < fuel) :
    (pollFuel fuel oracle s).1 ≠ .outOfFuel := pollFuel_terminates fuel oracle s h

/-- When the router yields without a subscriber in the way, no registration is left waiting in the channel and
    the channel holds the task's waker (so the next registration, or shutdown, wakes it). -/
theorem c09_pubsub_channel_drained (fuel : Nat) (oracle : List Nat) (s : PS α)
    (h : (pollFuel fuel oracle s).1 = .idle ∨ (pollFuel fuel oracle s).1 = .waitingStreams) :
    (pollFuel fuel oracle s).2.1.queue = [] ∧ (pollFuel fuel oracle s).2.1.handleReg = true :=
  pollFuel_drained fuel oracle s h

/-- … and nothing accepted is waiting to be written or flushed. -/
theorem c09_pubsub_no_unflushed_work (fuel : Nat) (oracle : List Nat) (s : PS α)
    (h : (pollFuel fuel oracle s).1 = .idle ∨ (pollFuel fuel oracle s).1 = .waitingStreams) :
    (pollFuel fuel oracle s).2.1.buffered = none ∧
    ∀ k ∈ (pollFuel fuel oracle s).2.1.sinks, k.flushed = k.got.length :=
  pollFuel_flushed fuel oracle s (h.imp_right .inl)

/-- Subscribers able to accept data never block it. -/
theorem c09_pubsub_calm_never_blocked (fuel : Nat) (oracle : List Nat) (s : PS α) (h : CalmState s) :
    (pollFuel fuel oracle s).1 ≠ .blockedOnSink := pollFuel_calm fuel oracle s h

/-- "An executor that only re-polls on wake-up still delivers and flushes everything." From any reachable state,
    whatever the subscribers' and publishers' scripts (any mix of Ready / Pending / Err answers) and whatever
    `StreamMap`'s random choices in each poll: a wake-driven executor (`runPolls`: the router is polled again
    only because a child that answered Pending fired the waker it was given) needs at most `measure s` further
    polls — the answers the peers still hold — until a poll ends idle or finished; and in the state that poll
    leaves behind nothing is buffered, and every subscriber still registered has been handed, and had flushed,
    every item accepted since its registration. No schedule of Pending answers makes the router sleep on undone
    work or stay blocked for ever. -/
theorem c09_pubsub_wake_driven_executor_delivers (history : List (Event α)) (orc : Nat → List Nat) :
    ∃ n, n ≤ measure (exec history) ∧
      ((pollFuel (work (runPolls orc n (exec history)) + 1) (orc n) (runPolls orc n (exec history))).1 = .idle ∨
       (pollFuel (work (runPolls orc n (exec history)) + 1) (orc n) (runPolls orc n (exec history))).1 = .done) ∧
      (pollFuel (work (runPolls orc n (exec history)) + 1) (orc n) (runPolls orc n (exec history))).2.1.buffered = none ∧
      ∀ k ∈ (pollFuel (work (runPolls orc n (exec history)) + 1) (orc n) (runPolls orc n (exec history))).2.1.sinks,
        k.got = (pollFuel (work (runPolls orc n (exec history)) + 1) (orc n) (runPolls orc n (exec history))).2.1.accepted.drop k.regAt ∧
        k.flushed = k.got.length := by
  obtain ⟨n, hn, hfin⟩ := runPolls_settles (exec history) orc
  have ho := hfin.imp_right (Or.inr (a := (pollFuel (work (runPolls orc n (exec history)) + 1) (orc n)
    (runPolls orc n (exec history))).1 = .waitingStreams))
  exact ⟨n, hn, hfin, (pollFuel_flushed _ _ _ ho).1, pollFuel_delivered _ _ _ (runPolls_invariant pollFuel_inv orc n _ (exec_inv history)) ho⟩

/-- every poll that ends blocked on a subscriber or waiting for publishers has used up one of the answers its
    peers held; no poll adds one (the progress measure behind the theorem above) -/
theorem c09_pubsub_pending_poll_makes_progress (fuel : Nat) (oracle : List Nat) (s : PS α) :
    measure (pollFuel fuel oracle s).2.1 ≤ measure s ∧
    (((pollFuel fuel oracle s).1 = .blockedOnSink ∨ (pollFuel fuel oracle s).1 = .waitingStreams) →
      measure (pollFuel fuel oracle s).2.1 < measure s) := pollFuel_measure_lt fuel oracle s

/-! Non-vacuity: a subscriber that answers Pending twice to readiness and once to a flush, a publisher with a
    Pending between two messages: the first poll ends blocked, the executor needs three more polls. -/
def exSettle : PS Nat :=
  { queue := [.sink { id := 0, readyQ := [.pending, .pending], flushQ := [.pending] }, .stream [.item 1, .pending, .item 2]] }

example : measure exSettle = 9 ∧ (pollFuel 10 [] exSettle).1 = .blockedOnSink ∧
    (pollFuel 10 [] (runPolls (fun _ => []) 4 exSettle)).1 = .idle ∧
    (runPolls (fun _ => []) 4 exSettle).sinks.map (fun k => (k.got, k.flushed)) = [([1, 2], 2)] := by
  decide +kernel

/-! Non-vacuity: the schedule on which the unrepaired router parked with a registration still queued —
    an idle publisher, then a subscriber registers — drains the channel. -/
example : (pollFuel 10 [] ({ queue := [.stream [.pending], .sink { id := 0 }] } : PS Nat)).1 = .waitingStreams ∧
    (pollFuel 10 [] ({ queue := [.stream [.pending], .sink { id := 0 }] } : PS Nat)).2.1.queue.length = 0 := by
  decide +kernel

end Selium.Route


namespace Selium.Route
open Selium.Sink

/-- One step performs work bounded by the data currently available (`rwork s`: queued registrations, answers
    held by the requestor streams and the replier stream, buffered frames, a pending rejection) and then yields —
    with a replier and no requestor, requestors and no replier, both, or neither. -/
theorem c09_reqrep_terminates (s : RR) : (rrPoll (rwork s + 1) s).1 ≠ .outOfFuel :=
  rrPoll_terminates (rwork s + 1) s (Nat.lt_succ_self _)

/-- Every iteration of the loop either returns from `poll` or strictly reduces the available work. -/
theorem c09_reqrep_iteration_progress (s : RR) :
    match iter s with
    | .ret _ _ => True
    | .next s' => rwork s' < rwork s
    | .again s' => rwork s' < rwork s :=
  Flow.Post.mono (iter_effect s) (fun _ _ _ => trivial) (fun _ h => h.2.resolve_right nofun) fun _ h => h.2

/-- Whenever it yields not blocked on a particular sink (idle, or both sides reported Pending), no registration
    is left in the channel and the channel holds the task's waker. -/
theorem c09_reqrep_channel_drained (fuel : Nat) (s : RR)
    (h : (rrPoll fuel s).1 = .idle ∨ (rrPoll fuel s).1 = .waiting) :
    (rrPoll fuel s).2.queue = [] ∧ (rrPoll fuel s).2.handleReg = true := (rrPoll_parked fuel s).1 h

/-- "Never sleeps on undone work", request/reply half: when a poll ends `waiting` (every connected side has
    reported Pending, or is absent) no reply is held back, and a successful flush covers everything every
    requestor's sink and the bound replier's sink were handed — with a replier and no requestor, requestors and no
    replier, both, or neither, and for every script of every peer. -/
theorem c09_reqrep_no_unflushed_work (fuel : Nat) (s : RR) (h : (rrPoll fuel s).1 = .waiting) :
    (∀ k ∈ (rrPoll fuel s).2.sinks, k.flushed = k.got.length) ∧ (rrPoll fuel s).2.bufRep = none ∧
    ∀ r, (rrPoll fuel s).2.server = some r → r.sink.flushed = r.sink.got.length :=
  (rrPoll_flushed fuel s).1 h

/-- Across polls: no poll of the request/reply router adds to what its peers can still make it wait for or work on
    (`rmeasure`: queued registrations, what the requestor streams and the replier stream hold, buffered frames, a
    pending rejection, and the readiness / flush / close answers held by every requestor sink, the replier's sink,
    a rejected replier's sink), and a poll that ends blocked on one of those sinks has used one of its answers up. -/
theorem c09_reqrep_blocked_poll_makes_progress (fuel : Nat) (s : RR) :
    rmeasure (rrPoll fuel s).2 ≤ rmeasure s ∧
    ((rrPoll fuel s).1.isBlocked = true → rmeasure (rrPoll fuel s).2 < rmeasure s) := by
  have := rrPoll_effect fuel s
  rw [rmeasure_eq, rmeasure_eq s]
  exact ⟨Nat.add_le_add this.1 this.2.1, fun hb => Nat.add_lt_add_of_le_of_lt this.1 (this.2.2 hb)⟩

/-- Hence under a wake-driven executor (polled again only because a sink that answered Pending fired the waker)
    the router is never blocked for ever: from any state, for all scripts of all peers and all `StreamMap` / `HashMap`
    orders, within `rmeasure s` further polls a poll ends idle, waiting or finished — and if it ends waiting, no reply
    is held back and every requestor sink and the replier's sink is flushed. -/
theorem c09_reqrep_wake_driven_executor_unblocks (s : RR) (orc : Nat → List Nat × List Nat) :
    ∃ n, n ≤ rmeasure s ∧
      (rrPoll (rwork (rrRunPolls orc n s) + 1) (withOracles (rrRunPolls orc n s) (orc n))).1.isBlocked = false ∧
      ((rrPoll (rwork (rrRunPolls orc n s) + 1) (withOracles (rrRunPolls orc n s) (orc n))).1 = .waiting →
        Flushed (rrPoll (rwork (rrRunPolls orc n s) + 1) (withOracles (rrRunPolls orc n s) (orc n))).2) := by
  obtain ⟨n, hn, hb⟩ := rrRunPolls_unblocks s orc
  exact ⟨n, hn, hb, (rrPoll_flushed _ _).1⟩

/-- The early park. When nothing is connected and nothing is buffered the router returns Pending without flushing —
    and for every reachable state that is safe: a poll that ends `idle` leaves every requestor sink with everything it
    was handed covered by a completed flush. Behind it is an invariant over all histories (`IdleSafe`): a requestor sink can
    hold an unflushed reply only while a replier is bound or a request is buffered, because every way a replier gets
    unbound with no request buffered (its stream ended; its sink failed while being flushed) goes through a completed
    flush of the requestor sinks first. -/
theorem c09_reqrep_idle_means_flushed (history : List REvent) (fuel : Nat) (so ko : List Nat)
    (h : (rrPoll fuel { rrExec history with so := so, ko := ko }).1 = .idle) :
    ∀ k ∈ (rrPoll fuel { rrExec history with so := so, ko := ko }).2.sinks, k.flushed = k.got.length :=
  (rrPoll_idleSafe fuel { rrExec history with so := so, ko := ko } (idleSafeReads (rrExec_idleSafe history) rfl)).2 h

/-! Non-vacuity: a requestor whose sink answers Pending to readiness twice and to the flush once, a replier with a
    reply for it: the first three polls end blocked on the requestor, the fourth delivers and flushes the reply
    (both peers have gone by then: it ends idle). -/
def exRRSettle : RR :=
  { queue := [.client { id := 0, readyQ := [.pending, .pending], flushQ := [.pending] } [.pending],
              .server { id := 0 } [.item (.msg (some [("cid", "0")]) 5), .pending]] }

example : (rrPoll 30 exRRSettle).1 = .blockedOnRequestor ∧
    (rrPoll 30 (rrRunPolls (fun _ => ([], [])) 3 exRRSettle)).1 = .idle ∧
    (rrRunPolls (fun _ => ([], [])) 4 exRRSettle).sinks.map (fun k => (k.got, k.flushed)) = [([.msg none 5], 1)] := by
  decide +kernel

/-! Non-vacuity: the two one-sided states in which the unrepaired loop never returned. -/
example : (rrPoll 20 ({ queue := [.client { id := 0 } [.pending]] } : RR)).1 = .waiting := by decide +kernel
example : (rrPoll 20 ({ queue := [.server { id := 0 } [.pending]] } : RR)).1 = .waiting := by decide +kernel

end Selium.Route

#print axioms Selium.Route.c09_pubsub_terminates
#print axioms Selium.Route.c09_pubsub_terminates_any
#print axioms Selium.Route.c09_pubsub_channel_drained
#print axioms Selium.Route.c09_pubsub_no_unflushed_work
#print axioms Selium.Route.c09_pubsub_calm_never_blocked
#print axioms Selium.Route.c09_pubsub_wake_driven_executor_delivers
#print axioms Selium.Route.c09_pubsub_pending_poll_makes_progress
#print axioms Selium.Route.c09_reqrep_terminates
#print axioms Selium.Route.c09_reqrep_iteration_progress
#print axioms Selium.Route.c09_reqrep_channel_drained
#print axioms Selium.Route.c09_reqrep_no_unflushed_work
#print axioms Selium.Route.c09_reqrep_blocked_poll_makes_progress
#print axioms Selium.Route.c09_reqrep_wake_driven_executor_unblocks
#print axioms Selium.Route.c09_reqrep_idle_means_flushed
