/-
C02 — Request/reply routing: replies reach only the originating requestor, none lost.

Model: `Route/ReqRep.lean` (the repaired `poll`, block by block) and `Sink/Router.lean`, scripted children,
every ready/pending/error behaviour of every sink and stream, any number of requestors, any sequence of
replier binds, any header maps (including requestor-supplied `cid`), any `HashMap` / `StreamMap` order.
Ghost logs: `taken` (requests taken from requestors, as tagged), `handed` (accepted by a replier's sink),
`lost`, `repTaken` (replies taken from repliers), `routed` (what became of each reply).
-/
import SeliumModel.Lemmas.ReqRepRequests
import SeliumModel.Lemmas.ReqRepReplies
import SeliumModel.Lemmas.Digits
import SeliumModel.Lemmas.System

namespace Selium.Route
open Selium.Sink

/-- Every request is handed to a replier at most once, in the sending requestor's order: what repliers were
    handed (plus the one buffered request) is a subsequence of the requests taken, and every request taken
    is accounted for — handed, buffered, or lost. -/
theorem c02_requests_at_most_once_in_order (history : List REvent) :
    ((rrExec history).handed.map (·.2) ++ (rrExec history).bufReq.toList).Sublist ((rrExec history).taken.map (·.2)) ∧
    (rrExec history).taken.length =
      (rrExec history).handed.length + (rrExec history).lost.length + (rrExec history).bufReq.toList.length :=
  ⟨(reqInv.exec history).sub, (reqInv.exec history).count⟩

/-- … tagged with an origin the requestor cannot forge: whatever headers the requestor supplied (including its
    own `cid`), the request carries the router's id for the stream it arrived on. -/
theorem c02_origin_tag (history : List REvent) :
    ∀ x ∈ (rrExec history).taken, ∃ h p, x.2 = tagRequest x.1 h p ∧
      ((h.getD []).set CID (toString x.1)).get CID = some (toString x.1) := by
  intro x hx
  obtain ⟨h, p, hxe⟩ := (reqInv.exec history).tagged x hx
  exact ⟨h, p, hxe, hdr_get_set _ _ _⟩

/-- A request is dropped only while no replier is bound (it is overwritten by the next one) or because the
    bound replier's sink refused it: at the point where the next request is taken, none is buffered if a replier
    is bound — so with a replier bound and accepting, every request is handed over exactly once. -/
theorem c02_exactly_once_while_bound (s : RR) :
    NextHas NoBacklog (((((partA { s with serverPending := s.server.isNone, streamPending := false }).andThen partB).andThen
      partH).andThen partD).andThen partE) ∧
    ∀ t, NoBacklog t → ((partF t).state.lost = t.lost ∨ t.server = none) :=
  ⟨((((partA_noBacklog _).andThen partB_noBacklog).andThen partH_noBacklog).andThen partD_noBacklog).andThen partE_noBacklog,
    partF_loses_only_unbound⟩

/-- No reply the replier emitted is dropped or overwritten, however slow a requestor is: the replies taken from
    repliers are, in order, exactly those already dealt with plus the one buffered. And each connected requestor's
    sink has been handed exactly the replies routed to its id, in order — nobody else's. -/
theorem c02_replies_none_lost_each_to_its_requestor (history : List REvent) :
    (rrExec history).routed.map (·.1) ++ (rrExec history).bufRep.toList = (rrExec history).repTaken ∧
    ∀ k ∈ (rrExec history).sinks, k.got = (rrExec history).routed.filterMap (deliveredTo k.id) :=
  ⟨(repInv.exec history).replies, fun k hk => ((repInv.exec history).sinks k hk).2⟩

/-- What "routed to" means: a reply is delivered only to the requestor its `cid` names, with the routing tag
    stripped and payload and remaining headers intact; every other sink is untouched. -/
theorem c02_reply_delivery (f : RFrame) (es : List (Child RFrame)) (cid : Nat) (g : RFrame)
    (h : (routerSend f es).1 = .delivered cid g) :
    ∃ hd p v, f = .msg (some hd) p ∧ hd.get CID = some v ∧ parseUsize v = some cid ∧ g = stripCid hd p ∧
      (routerSend f es).2.1 = es.map (fun d => if d.id = cid then d.afterSend g else d) :=
  routerSend_delivered f es cid g h

/-- A reply with a missing, unknown or malformed routing tag (or a frame that is not a message) is discarded
    without touching any sink. -/
theorem c02_bad_tag_discarded (f : RFrame) (es : List (Child RFrame)) (why : String)
    (h : (routerSend f es).1 = .discarded why) : (routerSend f es).2.1 = es ∧ (routerSend f es).2.2 = [] :=
  routerSend_discarded f es why h

/-- every routing step recorded as delivered to `cid` was a message tagged `cid`, handed over with the tag stripped -/
theorem c02_routed_wf (history : List REvent) : RouteWf (rrExec history) :=
  routeWf.exec history

/-- End to end across the router, for a replier that answers with the headers of the request it answers (the library
    replier does: `c04_replier_answers_in_order_with_request_headers`): whatever a connected requestor's sink was
    handed is the answer to a request that was taken from that very requestor's stream — the frame's headers are that
    request's headers (as tagged by the router) with the tag stripped. In every history, for every schedule, however
    many requestors there are and whatever `cid` headers they forge. -/
theorem c02_honest_replies_reach_the_requestor_they_answer (history : List REvent)
    (honest : ∀ f ∈ (rrExec history).repTaken, ∃ x ∈ (rrExec history).handed, ∃ hd p r,
        x.2 = .msg (some hd) p ∧ f = .msg (some hd) r) :
    ∀ k ∈ (rrExec history).sinks, ∀ g ∈ k.got,
      ∃ h p r, (k.id, tagRequest k.id h p) ∈ (rrExec history).taken ∧
        g = stripCid ((h.getD []).set CID (toString k.id)) r := by
  intro k hk g hg
  -- `g` is a reply taken from the replier, its tag stripped; the tag parses to `k.id`
  obtain ⟨hd, r, v, hmem, hget, hparse, rfl⟩ := (repInv.exec history).got_taken (c02_routed_wf history) k hk g hg
  -- the replier echoed the headers of a request it had been handed,
  obtain ⟨y, hy, _, p', _, hy2, hf⟩ := honest _ hmem
  cases hf
  -- which was taken from some requestor's stream and tagged with that requestor's id:
  obtain ⟨sid, h0, p0, htk, htag⟩ := (reqInv.exec history).handed_tagged y hy
  rw [htag] at htk
  obtain ⟨rfl, -⟩ : hd = (h0.getD []).set CID (toString sid) ∧ p' = p0 := by simpa [tagRequest] using hy2.symm.trans htag
  -- the tag names this requestor
  obtain rfl := Option.some.inj ((hdr_get_set ..).symm.trans hget)
  obtain rfl := parseUsize_toString_some sid k.id hparse
  exact ⟨h0, p0, r, htk, rfl⟩

/-- an honest history: two requestors (the second forges `cid=0`), the replier echoes each request's headers -/
def exHonest : List REvent :=
  [.enqueue (.client { id := 0 } [.item (.msg none 1), .pending]),
   .enqueue (.client { id := 0 } [.item (.msg (some [("cid", "0"), ("req_id", "7")]) 2), .pending]),
   .enqueue (.server { id := 0 } [.pending, .item (.msg (some [("cid", "1"), ("req_id", "7")]) 20), .item (.msg (some [("cid", "0")]) 10), .pending]),
   .poll 60 [] [], .poll 60 [] [], .poll 60 [] []]

example : (rrExec exHonest).handed.map (·.2) = [.msg (some [("cid", "0")]) 1, .msg (some [("cid", "1"), ("req_id", "7")]) 2] ∧
    (rrExec exHonest).repTaken = [.msg (some [("cid", "1"), ("req_id", "7")]) 20, .msg (some [("cid", "0")]) 10] ∧
    (rrExec exHonest).sinks.map (·.got) = [[.msg none 10], [.msg (some [("req_id", "7")]) 20]] := by decide +kernel

/-! Non-vacuity: the schedule on which the unrepaired router lost a reply — requestor sink not ready once,
    two replies waiting — delivers both, in order, tag stripped. -/
def exRR : List REvent :=
  [.enqueue (.client { id := 0, readyQ := [.pending] } [.item (.msg none 1), .pending]),
   .enqueue (.server { id := 0 } [.item (.msg (some [("cid", "0")]) 2), .item (.msg (some [("cid", "0"), ("x", "y")]) 3), .pending]),
   .poll 50 [] [], .poll 50 [] [], .poll 50 [] []]

example : ((rrExec exRR).sinks.map (·.got)) = [[.msg none 2, .msg (some [("x", "y")]) 3]] ∧
    (rrExec exRR).handed = [(0, .msg (some [("cid", "0")]) 1)] := by decide +kernel

end Selium.Route

namespace Selium.Server
open Selium.Route Selium.Sink

/-- Inside any history of the whole server (streams opened under any names in any roles, any topic polled, shutdown)
    the request/reply router of topic `n` is the single-router model run on the events addressed to `n`, so its
    routing theorems hold there: no reply taken from `n`'s replier is lost, and each requestor's sink was handed
    exactly the replies routed to its id, in order. -/
theorem c02_every_topic_of_the_server (history : List SEvent) (n : Name) :
    ((sysExec history).rr n).routed.map (·.1) ++ ((sysExec history).rr n).bufRep.toList = ((sysExec history).rr n).repTaken ∧
    ∀ k ∈ ((sysExec history).rr n).sinks, k.got = ((sysExec history).rr n).routed.filterMap (deliveredTo k.id) := by
  rw [sys_rr_is_router]; exact c02_replies_none_lost_each_to_its_requestor _

/-- a reply on topic `n` reaches nobody on another topic: `n`'s requestors and repliers, and everything they are
    handed, are untouched by the events of every other name -/
theorem c02_no_other_topic_interferes (history : List SEvent) (n : Name) :
    (sysExec history).rr n = (sysExec (history.filter (mentions n))).rr n :=
  (sys_topic_independent n history).2.2

end Selium.Server

#print axioms Selium.Route.rrExec_inv
#print axioms Selium.Route.c02_requests_at_most_once_in_order
#print axioms Selium.Route.c02_origin_tag
#print axioms Selium.Route.c02_exactly_once_while_bound
#print axioms Selium.Route.c02_replies_none_lost_each_to_its_requestor
#print axioms Selium.Route.c02_reply_delivery
#print axioms Selium.Route.c02_bad_tag_discarded
#print axioms Selium.Route.c02_routed_wf
#print axioms Selium.Route.c02_honest_replies_reach_the_requestor_they_answer
#print axioms Selium.Server.c02_every_topic_of_the_server
#print axioms Selium.Server.c02_no_other_topic_interferes
