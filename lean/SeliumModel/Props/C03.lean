/-
C03 — End-to-end pub/sub fidelity for every client configuration.

Model: `Client/PubSubClient.lean` (publisher `Sink` impl with batching, `finish`, subscriber `poll_next`),
`Client/Codecs.lean`, `Wire/Batch.lean`. The codec is any lossless codec (the three standard ones are, C14), the
compressor any compressor that inverts itself (hypothesis, tested per algorithm in C14), batching is off or on
with ANY size (0 included) and ANY interval/clock (the `elapsed` oracle of each `poll_ready` is arbitrary).
The server forwards the publisher's frames to the subscriber unchanged and in order (C01), so the subscriber's
input is the publisher's `wire`.
-/
import SeliumModel.Lemmas.Publisher
import SeliumModel.Lemmas.Subscriber
import SeliumModel.Lemmas.PubSub
import SeliumModel.Lemmas.PubSubOrder

namespace Selium.Client
open Selium Selium.Wire

variable {α : Type}

/-- C03 with the size hypothesis the batch format actually needs: only runs of consecutive accepted items are ever
    batched, so only their encodings have to fit (a hypothesis about *all* lists, as in the theorems below, is met by no
    codec that encodes anything). -/
theorem c03_fidelity_any_driving_sized (c : Codec α) (good : α → Prop) (hc : c.Lossless good) (z : Compressor)
    (hz : z.Lossless) (lim : Nat) (batchSize : Option Nat) (ops : List (PubOp α))
    (hgood : ∀ op ∈ ops, ∀ a ∈ op.item, good a)
    (hfit : ∀ pend : List α, pend <:+: ops.flatMap PubOp.item → ∀ ms, mapRes c.encode pend = .ok ms → Fits ms)
    (p pf : Pub) (hrun : (Pub.ofConfig batchSize).applyAll c z lim ops = .ok p) (hfinish : p.finish z lim = .ok pf) :
    subscriberOutputs c z pf.wire = (ops.flatMap PubOp.item).map Res.ok ∧
      pf.framed = [] ∧ (pf.batch = none ∨ pf.batch = some []) :=
  finish_spec hz hfit p pf
    (applyAll_inv hc hz hfit ops _ [] hgood (Pub.accounted_ofConfig c z _ batchSize) (List.prefix_refl _) p hrun) hfinish

/-- C03 for every way of driving the publisher's `Sink`: any mix of `send(item)` (accepted and flushed),
    `feed(item)` (accepted, nothing flushed), `flush()` and bare `poll_ready` calls, under any clock, with batching on or off — whenever every
    operation and the final `finish()` returned `Ok`, the subscriber yields exactly the accepted items in order, each
    once, and `finish()` has handed everything to the transport: what was fed but never flushed, a batch that filled up
    exactly on the last `poll_ready`, a partial batch. -/
theorem c03_fidelity_any_driving_partial (c : Codec α) (good : α → Prop) (hc : c.Lossless good) (z : Compressor)
    (hz : z.Lossless) (lim : Nat) (batchSize : Option Nat) (ops : List (PubOp α))
    (hgood : ∀ op ∈ ops, ∀ a ∈ op.item, good a)
    (hfit : ∀ (pend : List α) ms, mapRes c.encode pend = .ok ms → Fits ms)
    (p pf : Pub)
    (hrun : ({ batch := batchSize.map (fun _ => []), size := batchSize.getD 0 } : Pub).applyAll c z lim ops = .ok p)
    (hfinish : p.finish z lim = .ok pf) :
    subscriberOutputs c z pf.wire = (ops.flatMap PubOp.item).map Res.ok ∧
      pf.framed = [] ∧ (pf.batch = none ∨ pf.batch = some []) :=
  c03_fidelity_any_driving_sized c good hc z hz lim batchSize ops hgood (fun pend _ => hfit pend) p pf hrun hfinish

/-- For every configuration — lossless codec, self-inverting compressor (or none), batching off or on with
    any size and any clock, any frame limit — whenever every `send` and `finish()` returned `Ok`, the subscriber
    yields exactly the items accepted, in the order sent, each once, with equal values; and `finish()` has handed
    everything, including a partially filled batch, to the transport (nothing is left in the batch or the framed
    writer). "Partial": the compressor's round trip is a hypothesis. -/
theorem c03_fidelity_partial (c : Codec α) (good : α → Prop) (hc : c.Lossless good) (z : Compressor) (hz : z.Lossless)
    (lim : Nat) (batchSize : Option Nat) (items : List (Bool × α)) (hgood : ∀ x ∈ items, good x.2)
    (hfit : ∀ (pend : List α) ms, mapRes c.encode pend = .ok ms → Fits ms)
    (p pf : Pub)
    (hsend : ({ batch := batchSize.map (fun _ => []), size := batchSize.getD 0 } : Pub).sendAll c z lim items = .ok p)
    (hfinish : p.finish z lim = .ok pf) :
    subscriberOutputs c z pf.wire = (items.map (·.2)).map Res.ok ∧
      pf.framed = [] ∧ (pf.batch = none ∨ pf.batch = some []) := by
  rw [Pub.sendAll_eq_applyAll] at hsend
  have := c03_fidelity_any_driving_partial c good hc z hz lim batchSize _
    (by intro op hop a ha
        obtain ⟨x, hx, rfl⟩ := List.mem_map.1 hop
        rw [List.mem_singleton.1 ha]; exact hgood x hx) hfit p pf hsend hfinish
  rwa [List.flatMap_map, show (fun x : Bool × α => (PubOp.send x.1 x.2).item) = fun x => [x.2] from rfl,
    ← List.map_eq_flatMap] at this

/-- what the unflushed hand-over looks like on a concrete publisher: four items fed, none flushed, batch size 3 filled
    exactly by the third; `finish()` hands all of them over -/
example :
    (match ({ batch := some [], size := 3 } : Pub).applyAll bytesCodec noCompression 1000
        [.feed false [65], .feed false [66], .feed false [67], .feed false [68]] with
     | .ok p => (p.wire.length, p.framed.length,
                 match p.finish noCompression 1000 with
                 | .ok pf => subscriberOutputs bytesCodec noCompression pf.wire
                 | _ => [.err "finish"])
     | _ => (0, 0, [])) = (0, 1, [.ok [65], .ok [66], .ok [67], .ok [68]]) := by decide +kernel

/-- `duplicate()`: whatever state the original is in — a partial batch collected, frames not yet flushed — the duplicate
    delivers exactly what is sent through *it*, each item once: nothing of the original's comes along (so nothing the
    original has accepted is delivered twice), and the original's own delivery is the theorem above, untouched. -/
theorem c03_duplicate_delivers_only_its_own_partial (c : Codec α) (good : α → Prop) (hc : c.Lossless good) (z : Compressor)
    (hz : z.Lossless) (lim : Nat) (orig : Pub) (ops : List (PubOp α))
    (hgood : ∀ op ∈ ops, ∀ a ∈ op.item, good a)
    (hfit : ∀ (pend : List α) ms, mapRes c.encode pend = .ok ms → Fits ms)
    (p pf : Pub)
    (hrun : orig.duplicate.applyAll c z lim ops = .ok p)
    (hfinish : p.finish z lim = .ok pf) :
    subscriberOutputs c z pf.wire = (ops.flatMap PubOp.item).map Res.ok :=
  (c03_fidelity_any_driving_partial c good hc z hz lim orig.config ops hgood hfit p pf hrun hfinish).1

/-- the duplicate of a publisher that holds a partial batch holds none -/
example : (({ batch := some [[1], [2]], size := 10, framed := [.message [3]] } : Pub).duplicate) = { batch := some [], size := 10 } := by
  decide

/-- A known finding, stated on the model (`known_findings.json`, C03-oversize-batch): when a batch outgrows the
    frame limit, `send_batch` has already drained it when the framed writer refuses the frame — the `send` that
    triggered the framing fails, and the members of the batch, whose `send`s had all returned `Ok`, are gone.
    Witness: frame limit 40, batch size 3, four 10-byte items, then `finish()`: all of the first three were
    accepted, the fourth `send` fails, and the subscriber is sent nothing at all. -/
theorem c03_refused_batch_loses_accepted_members :
    let items : List (Bool × Bytes) := (List.range 4).map fun i => (false, List.replicate 10 (UInt8.ofNat (65 + i)))
    let r := ({ batch := some [], size := 3 } : Pub).sendEach bytesCodec noCompression 40 items
    r.2 = [true, true, true, false] ∧
    (match r.1.finish noCompression 40 with
     | .ok pf => subscriberOutputs bytesCodec noCompression pf.wire
     | _ => [.err "finish"]) = [] := by decide +kernel

/-- The list-level subscriber of the fidelity theorem is what `Subscriber::poll_next` does: polled again and again
    (self-calling or looping, whatever the frames, batches — empty ones included — and errors), the state machine of
    `Client/Subscriber.lean` yields exactly `subscriberOutputs` of the frames it is fed, in order. -/
theorem c03_subscriber_state_machine_refines_outputs (c : Codec α) (z : Compressor) (r : Bool) (frames : List WFrame)
    (n : Nat) (hn : (subscriberOutputs c z frames).length < n) :
    (Sub.drain c z r n { batch := [], script := frames.map .frame }).1 = subscriberOutputs c z frames :=
  Sub.drain_spec c z r n { batch := [], script := frames.map .frame } frames rfl hn

open Selium.Route Selium.Sink in
theorem fromPub_all (acc : List WFrame) (src : List Nat) (sid : Nat) (hl : src.length = acc.length)
    (h : ∀ i ∈ src, i = sid) : fromPub acc src sid = acc := by
  induction acc generalizing src with
  | nil => cases src <;> rfl
  | cons x xs ih =>
    cases src with
    | nil => cases hl
    | cons i is =>
      rw [fromPub, if_pos (h i List.mem_cons_self), ih is (Nat.succ.inj hl) fun j hj => h j (List.mem_cons_of_mem _ hj)]

/-- End to end, publisher → server → subscriber: the publisher's frames (`pf.wire`) enter the topic's router as the
    items of publisher stream `sid`; when that stream has ended and a poll has ended without being blocked by a
    subscriber, a subscriber that was registered before the first message and is still registered has been handed —
    and had flushed — frames from which `Subscriber::poll_next` yields exactly the items the publisher accepted, in
    order, each once. For every codec / compressor / batching configuration, every clock, every interleaving of
    ready / pending answers of the router's peers, every `StreamMap` order (the history is arbitrary). The only other
    assumption: no other publisher's message was accepted on this topic (`src` names only `sid`). -/
theorem c03_end_to_end_through_the_router_partial (c : Codec α) (good : α → Prop) (hc : c.Lossless good)
    (z : Compressor) (hz : z.Lossless) (lim : Nat) (batchSize : Option Nat) (items : List (Bool × α))
    (hgood : ∀ x ∈ items, good x.2) (hfit : ∀ (pend : List α) ms, mapRes c.encode pend = .ok ms → Fits ms)
    (p pf : Pub)
    (hsend : ({ batch := batchSize.map (fun _ => []), size := batchSize.getD 0 } : Pub).sendAll c z lim items = .ok p)
    (hfinish : p.finish z lim = .ok pf)
    -- the router's side: any history, then a poll that ends quiescent
    (history : List (Selium.Route.Event WFrame)) (fuel : Nat) (oracle : List Nat)
    (hq : (Selium.Route.pollFuel fuel oracle (Selium.Route.exec history)).1 = .idle ∨
          (Selium.Route.pollFuel fuel oracle (Selium.Route.exec history)).1 = .waitingStreams ∨
          (Selium.Route.pollFuel fuel oracle (Selium.Route.exec history)).1 = .done)
    (k : Selium.Sink.Child WFrame) (hk : k ∈ (Selium.Route.pollFuel fuel oracle (Selium.Route.exec history)).2.1.sinks)
    (hreg : k.regAt = 0)
    (sid : Nat) (hlt : sid < (Selium.Route.pollFuel fuel oracle (Selium.Route.exec history)).2.1.nextStream)
    (hgone : ∀ st ∈ (Selium.Route.pollFuel fuel oracle (Selium.Route.exec history)).2.1.streams, st.id ≠ sid)
    (hscript : Selium.Route.itemsOf ((Selium.Route.pollFuel fuel oracle (Selium.Route.exec history)).2.1.scripts[sid]?.getD []) = pf.wire)
    (honly : ∀ i ∈ (Selium.Route.pollFuel fuel oracle (Selium.Route.exec history)).2.1.src, i = sid) :
    subscriberOutputs c z k.got = (items.map (·.2)).map Res.ok ∧ k.flushed = k.got.length := by
  -- what the router has handed `k` (everything accepted) is, publisher by publisher, what each ended publisher sent
  have hd := Selium.Route.pollFuel_delivered fuel oracle _ (Selium.Route.exec_inv history) hq k hk
  have hled := Selium.Route.pollFuel_ledger fuel oracle _ (Selium.Route.exec_ledger history)
  rw [hreg, List.drop_zero] at hd
  have hr := hled.gone hgone
  rw [← hd.1, fromPub_all k.got _ sid (hd.1 ▸ hled.tagged) honly, hscript] at hr
  exact ⟨hr ▸ (c03_fidelity_partial c good hc z hz lim batchSize items hgood hfit p pf hsend hfinish).1, hd.2⟩

/-- the hypotheses of the end-to-end theorem are met by a concrete run: two unbatched messages through a router with
    one subscriber that is not ready at first -/
def exRouterHistory : List (Selium.Route.Event WFrame) :=
  [.enqueue (.sink { id := 0, readyQ := [.pending] }),
   .enqueue (.stream [.item (.message [65]), .pending, .item (.message [66])]), .poll 30 [], .poll 30 [], .poll 30 []]

example :
    let s := (Selium.Route.pollFuel 30 [] (Selium.Route.exec exRouterHistory)).2.1
    (Selium.Route.pollFuel 30 [] (Selium.Route.exec exRouterHistory)).1 = .idle ∧
    s.sinks.map (·.regAt) = [0] ∧ s.nextStream = 1 ∧ s.streams.length = 0 ∧ s.src = [0, 0] ∧
    Selium.Route.itemsOf (s.scripts[0]?.getD []) = [.message [65], .message [66]] ∧
    s.sinks.map (·.got) = [[.message [65], .message [66]]] := by decide +kernel

/-! Non-vacuity: batch size 3, seven strings, no compression — two full batches, whose members have to come out oldest
    first (a subscriber that pops them off the end of the `Vec` yields m2,m1,m0,m5,m4,m3), and a seventh message that only
    `finish()` hands over. -/
def exItems : List (Bool × Bytes) := (List.range 7).map fun i => (false, [UInt8.ofNat (65 + i)])

example :
    (match ({ batch := some [], size := 3 } : Pub).sendAll stringCodec noCompression 1048576 exItems with
     | .ok p => match p.finish noCompression 1048576 with
       | .ok pf => (subscriberOutputs stringCodec noCompression pf.wire).map (fun r => match r with | .ok b => b | _ => [])
       | _ => []
     | _ => []) = [[65], [66], [67], [68], [69], [70], [71]] := by decide +kernel

end Selium.Client

#print axioms Selium.Client.c03_fidelity_any_driving_sized
#print axioms Selium.Client.c03_fidelity_partial
#print axioms Selium.Client.c03_fidelity_any_driving_partial
#print axioms Selium.Client.c03_subscriber_state_machine_refines_outputs
#print axioms Selium.Client.fromPub_all
#print axioms Selium.Client.c03_end_to_end_through_the_router_partial
#print axioms Selium.Client.c03_refused_batch_loses_accepted_members
#print axioms Selium.Client.c03_duplicate_delivers_only_its_own_partial
#print axioms Selium.Client.noCompression_lossless
#print axioms Selium.Client.mapRes_append_ok
#print axioms Selium.Client.mapRes_lossless
#print axioms Selium.Client.mapRes_no_panic
#print axioms Selium.Client.subscriberOutputs_append
#print axioms Selium.Client.sendBatch_inv
#print axioms Selium.Client.flush_inv
#print axioms Selium.Client.finish_spec
#print axioms Selium.Client.pollReady_inv
#print axioms Selium.Client.apply_inv
