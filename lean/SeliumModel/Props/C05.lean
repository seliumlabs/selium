/-
C05 — Wire formats round-trip and reassemble; the 1 MiB frame limit holds both ways.

Models: `Wire/Bincode.lean` (bincode 1.3 by schema), `Wire/Frame.lean`
(`Frame::{get_length,get_type,write_to_bytes}`, `TryFrom`, `MessageCodec::{encode,decode}`), `Wire/Framed.lean`
(`FramedRead`), `Wire/Batch.lean` (`utils.rs`). Tags, payload schemas, body tables and size constants are
regenerated from the source into `Gen/Frame.lean` on every run; the theorems below are generic in them and
only need the obligations `tag_roundtrip` / `bodies_agree` / `reserved_eq` / `lenMarkerSize_eq` / `maxMessageSize_lt`,
which are re-proved against the regenerated tables.
-/
import SeliumModel.Lemmas.Framed
import SeliumModel.Lemmas.Batch

namespace Selium.Wire
open Selium Selium.Bincode Selium.Gen.Frame

/-- For every frame the Rust type can hold whose payload is within the limit: the encoder accepts it,
    writes `9 + payload` bytes starting with the big-endian payload length, and the decoder, given those
    bytes followed by anything, returns an equal frame and leaves exactly what followed. -/
theorem c05_roundtrip (f : Frame) (hs : f.sendable) (rest : Bytes) :
    ∃ wire body, encode f = .ok wire ∧ payloadBytes (writeBody f.kind) f.payload = .ok body ∧
      wire.take 8 = beBytes 8 body.length ∧ wire.length = 9 + body.length ∧
      decode (wire ++ rest) = .ok (some f, rest) := by
  obtain ⟨body, hb, hlen, henc⟩ := encode_sendable f hs
  refine ⟨_, body, henc, hb, List.take_left' (beBytes_length 8 _), ?_, decode_encoded f body rest hs.1 hb hlen⟩
  rw [List.length_append, beBytes_length, List.length_cons]
  omega

/-- A payload larger than 1 MiB is refused by the encoder. -/
theorem c05_encode_limit (f : Frame) (body : Bytes)
    (hb : payloadBytes (writeBody f.kind) f.payload = .ok body) (hbig : maxMessageSize < body.length) :
    encode f = .err "payload-too-large" := encode_too_large f body hb hbig

/-- A length prefix larger than 1 MiB is refused by the decoder as soon as the 9 header bytes are there,
    whatever else is or is not buffered (in particular before any payload byte). -/
theorem c05_decode_limit (src : Bytes) (h9 : 9 ≤ src.length) (hbig : maxMessageSize < declaredLen src) :
    decode src = .err "payload-too-large" := decode_too_large src h9 hbig

/-- The limit is the one in the source (regenerated): 1 MiB. -/
theorem c05_limit_value : maxMessageSize = 1024 * 1024 := by decide

/-- An incomplete frame is waited for: `decode` consumes nothing when it asks for more bytes … -/
theorem c05_incomplete_consumes_nothing (src left : Bytes) (h : decode src = .ok (none, left)) :
    left = src := decode_none_same src left h

/-- … and it does ask for more on every strict prefix of an encoding. -/
theorem c05_incomplete_waits (f : Frame) (hs : f.sendable) (wire pre suf : Bytes)
    (henc : encode f = .ok wire) (hsplit : wire = pre ++ suf) (hsuf : suf ≠ []) :
    decode pre = .ok (none, pre) := by
  -- `c05_roundtrip` says what `wire` looks like: it starts with the length of `body` and is `9 + body.length` long
  obtain ⟨_, body, henc', hb, htake, hlen, -⟩ := c05_roundtrip f hs []
  cases henc.symm.trans henc'
  subst hsplit
  rcases Nat.lt_or_ge pre.length 9 with h9 | h9
  · exact decode_short pre h9
  · -- the length prefix is already complete and says `body.length`; the payload is not all there
    have hmax := hs.2 body hb
    have hd : declaredLen pre = body.length := by
      rw [← declaredLen_append pre suf h9, declaredLen, lenMarkerSize_eq, htake,
        beNat_beBytes 8 _ (Nat.lt_of_le_of_lt hmax maxMessageSize_lt)]
    rw [List.length_append] at hlen
    have hshort : pre.length < 9 + body.length := hlen ▸ Nat.lt_add_of_pos_right (List.length_pos_iff.2 hsuf)
    exact decode_partial pre h9 (hd ▸ hmax) (hd ▸ hshort)

/-- Reassembly: for ALL byte strings (valid or not) and every way of cutting them into chunks, the items a
    `FramedRead` yields are those it yields when the whole string arrives at once. -/
theorem c05_chunking_any_bytes (chunks : List Bytes) :
    run [] (chunks.map Read.data ++ [.eof]) = run [] [.data chunks.flatten, .eof] :=
  run_chunks [] drain_nil chunks [.eof]

/-- A stream of concatenated frame encodings decodes to the same frame sequence however it is cut into
    chunks, followed by a clean end of stream (no error item). -/
theorem c05_chunking (fs : List Frame) (hs : ∀ f ∈ fs, f.sendable) (wire : Bytes)
    (hw : encodeAll fs = some wire) (chunks : List Bytes) (hc : chunks.flatten = wire) :
    run [] (chunks.map Read.data ++ [.eof]) = fs.map Item.frame := by
  rw [c05_chunking_any_bytes, hc]
  simp only [run, List.nil_append, drain_encodeAll fs hs wire hw, drain_nil, List.isEmpty_nil, if_true,
    List.append_nil]

/-- A stream cut short inside a frame yields the complete frames before it and then an error, never a
    wrong frame. -/
theorem c05_truncated (fs : List Frame) (hs : ∀ f ∈ fs, f.sendable) (wire : Bytes)
    (hw : encodeAll fs = some wire) (f : Frame) (hf : f.sendable) (fw pre suf : Bytes)
    (henc : encode f = .ok fw) (hsplit : fw = pre ++ suf) (hsuf : suf ≠ []) (hpre : pre ≠ []) :
    run [] [.data (wire ++ pre), .eof] = fs.map Item.frame ++ [.error "bytes remaining on stream"] := by
  have hdp : drain pre = ([], some pre) :=
    drain_none pre pre (c05_incomplete_waits f hf fw pre suf henc hsplit hsuf)
  simp only [run, List.nil_append, drain_append wire pre, drain_encodeAll fs hs wire hw, hdp, List.append_nil,
    List.isEmpty_eq_false_iff.2 hpre, Bool.false_eq_true, if_false]

/-- Unbatching the encoding of a list of messages returns the same messages in the same order. -/
theorem c05_batch_roundtrip (ms : List Bytes) (hn : ms.length < 256 ^ 8) (hm : ∀ m ∈ ms, m.length < 256 ^ 8) :
    decodeBatch (encodeBatch ms) = .ok ms := decodeBatch_encodeBatch ms hn hm

/-- Obligations on the regenerated tables, restated as properties: distinct kinds never share a tag, and
    a kind's tag, length, writer and reader agree. -/
theorem c05_tags_injective (k k' : Kind) (h : tagOf k = tagOf k') : k = k' := by
  have h1 := (tag_roundtrip k).1
  rw [h, (tag_roundtrip k').1] at h1
  exact (Option.some.inj h1).symm

theorem c05_tables_agree (k : Kind) :
    kindOfTag (tagOf k) = some k ∧ tagOf k < 256 ∧ lenBody k = writeBody k ∧ readBody k = writeBody k :=
  ⟨(tag_roundtrip k).1, (tag_roundtrip k).2, (bodies_agree k).1, (bodies_agree k).2⟩

/-! Non-vacuity: concrete frames of several kinds satisfy `sendable`, with headers, operations and
    non-ASCII names. -/

def exMsg : Frame := ⟨.Message, .val (.struct [.opt (some (.map [(.str [99, 105, 100], .str [48])])), .bytes [1, 2, 3]])⟩
def exPub : Frame := ⟨.RegisterPublisher, .val (.struct [.struct [.str [0xc3, 0xb1, 97], .str [116]], .u64 5,
  .vec [.enum 0 (.str [109]), .enum 1 (.str [])]])⟩

/- `hasTy` is defined by well-founded recursion and does not evaluate: its equations take the schema check apart, what
   is left (lengths, ranges, UTF-8) is evaluated -/
private theorem exMsg_wf : exMsg.wf = true := by
  simp only [exMsg, Frame.wf, writeBody, tyMessagePayload, hasTy, fieldsTy, allPairsTy]
  decide
private theorem exPub_wf : exPub.wf = true := by
  simp only [exPub, Frame.wf, writeBody, tyPublisherPayload, tyTopicName, tyOperation, hasTy, fieldsTy,
    allTy, variantTy]
  decide
example : exMsg.sendable := by
  refine ⟨exMsg_wf, ?_⟩
  intro body hb
  cases hb
  decide +kernel
example : encode exMsg = .ok [0,0,0,0,0,0,0,40, 4, 1, 1,0,0,0,0,0,0,0, 3,0,0,0,0,0,0,0, 99,105,100,
    1,0,0,0,0,0,0,0, 48, 3,0,0,0,0,0,0,0, 1,2,3] := by decide +kernel

def itemTag : Item → Option Nat
  | .frame f => some (tagOf f.kind)
  | .error _ => none
  | .panic _ => none

example : (run [] [.data [0,0,0,0,0,0,0,0], .data [7, 0,0,0,0], .data [0,0,0,1,5,9], .eof]).map itemTag
    = [some 7, some 5] := by decide +kernel

end Selium.Wire

#print axioms Selium.Wire.c05_roundtrip
#print axioms Selium.Wire.c05_encode_limit
#print axioms Selium.Wire.c05_decode_limit
#print axioms Selium.Wire.c05_limit_value
#print axioms Selium.Wire.c05_incomplete_consumes_nothing
#print axioms Selium.Wire.c05_incomplete_waits
#print axioms Selium.Wire.c05_chunking_any_bytes
#print axioms Selium.Wire.c05_chunking
#print axioms Selium.Wire.c05_truncated
#print axioms Selium.Wire.c05_batch_roundtrip
#print axioms Selium.Wire.c05_tags_injective
#print axioms Selium.Wire.c05_tables_agree
