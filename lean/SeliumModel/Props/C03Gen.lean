/-
C03, the batching decision stated about the code itself: `Gen/MsgBatchFn.lean` is printed by the translator from
`client/src/batching/message_batch.rs` (+ `batch_config.rs`) on every run (`MessageBatch::{exceeded_interval,
exceeded_batch_size, is_ready}`; `Instant`s and `Duration`s are nanoseconds). The publisher model
(`Client/PubSubClient.lean`) takes "the interval has elapsed" as an oracle and compares the batch with its size itself;
here both are the generated predicates.
-/
import SeliumModel.Gen.MsgBatchFn
import SeliumModel.Client.PubSubClient

namespace Selium.Client
open Selium Selium.Wire Selium.Gen

/-- The translated `is_ready` is "the interval has elapsed since the last run, or the batch holds at least `batch_size`
    messages" — for every batch, size, interval and pair of instants (a `now` before `last_run` counts as no time
    elapsed: `saturating_duration_since`). -/
theorem c03_generated_is_ready_iff (batch : List Bytes) (size interval last now : Nat) :
    MsgBatchFn.is_ready batch size interval last now = true ↔ interval ≤ now - last ∨ size ≤ batch.length := by
  simp [MsgBatchFn.is_ready, MsgBatchFn.exceeded_interval, MsgBatchFn.exceeded_batch_size]

/-- The publisher model frames its batch in `poll_ready` exactly when the translated `is_ready` says so, with the model's
    clock oracle being the translated `exceeded_interval`: for every publisher state with batching on, every compressor,
    limit, interval and pair of instants. -/
theorem c03_generated_readiness_is_the_models (z : Compressor) (lim : Nat) (p : Pub) (ms : List Bytes)
    (hb : p.batch = some ms) (interval last now : Nat) :
    p.pollReady z lim (MsgBatchFn.exceeded_interval interval last now)
      = if MsgBatchFn.is_ready ms p.size interval last now then p.sendBatch z lim ms else .ok p := by
  -- the translated `is_ready` is the disjunction the model writes with `||`
  have key : MsgBatchFn.is_ready ms p.size interval last now =
      (MsgBatchFn.exceeded_interval interval last now || decide (p.size ≤ ms.length)) := by
    simp only [MsgBatchFn.is_ready, MsgBatchFn.exceeded_batch_size, Bool.decide_or, Bool.decide_eq_true, ge_iff_le]
  rw [Pub.pollReady, hb, key]

/-- A batch below its size whose interval has not elapsed is left alone (nothing is framed early), and a batch that has
    reached its size is framed at the next `poll_ready` whatever the clock says. -/
theorem c03_generated_full_batch_is_framed (batch : List Bytes) (size interval last now : Nat) (h : size ≤ batch.length) :
    MsgBatchFn.is_ready batch size interval last now = true :=
  (c03_generated_is_ready_iff batch size interval last now).mpr (Or.inr h)

example : MsgBatchFn.is_ready [[1], [2], [3]] 3 1000000 0 5 = true := by decide
example : MsgBatchFn.is_ready [[1], [2]] 3 1000000 0 5 = false := by decide
example : MsgBatchFn.is_ready [] 3 1000000 0 1000000 = true := by decide

end Selium.Client

#print axioms Selium.Client.c03_generated_is_ready_iff
#print axioms Selium.Client.c03_generated_readiness_is_the_models
#print axioms Selium.Client.c03_generated_full_batch_is_framed
