/-
C15 — Mutual TLS: only peers certified by the configured CA can talk.

Level "other": a policy theorem over an abstract chain-validation relation, instantiated with the
configuration facts the translator reads from the source (which client-certificate verifier the server
installs, whether the client verifies the server against its configured roots, the expected server name), plus an
exhaustive end-to-end run of the 8 identity pairings the property quantifies over, with fresh keys every run.
X.509, signatures and the handshake itself are rustls / webpki / ring: trusted, not proved.
-/
import SeliumModel.Server.Tls

namespace Selium.Tls
open Selium.Gen.Tls

/-- obligations on the regenerated configuration facts -/
theorem config_is_mutual : serverClientAuth = .requiredVerified ∧ clientVerifiesServer = true ∧
    clientPresentsCertificate = true ∧ sameAlpn = true ∧ serverName = "localhost" := ⟨rfl, rfl, rfl, rfl, rfl⟩

/-- With the extracted configuration a connection is established exactly when the client's certificate chains
    to the CA the server was started with AND the server's certificate chains to the CA the client was configured
    with and names `localhost`. -/
theorem c15_policy (serverRoots clientRoots : Nat) (client server : Identity) :
    handshake serverRoots clientRoots client server = true ↔
      chainsTo client serverRoots = true ∧ chainsTo server clientRoots = true ∧ nameOf server = some "localhost" := by
  obtain ⟨h1, h2, _, h4, h5⟩ := config_is_mutual
  simp only [handshake, serverAccepts, clientAccepts, h1, h2, h4, h5, if_true, Bool.true_and, Bool.and_eq_true,
    decide_eq_true_eq]

theorem refused_of_not_chained {sr cr : Nat} {client server : Identity}
    (h : chainsTo client sr = false ∨ chainsTo server cr = false) : handshake sr cr client server = false := by
  rw [← Bool.not_eq_true, c15_policy]
  rintro ⟨h1, h2, _⟩
  rcases h with h | h
  · rw [h] at h1; cases h1
  · rw [h] at h2; cases h2

/-- In particular a client with no certificate, a self-signed one, or one from another CA is refused, and a
    client refuses a server certified by another CA — whatever the other side presents. -/
theorem c15_untrusted_refused (serverRoots clientRoots other : Nat) (hne : other ≠ serverRoots) (hne' : other ≠ clientRoots)
    (peer : Identity) (san : String) :
    handshake serverRoots clientRoots .absent peer = false ∧
    handshake serverRoots clientRoots .selfSigned peer = false ∧
    handshake serverRoots clientRoots (.signedBy other san) peer = false ∧
    handshake serverRoots clientRoots peer (.signedBy other san) = false :=
  ⟨refused_of_not_chained (.inl rfl), refused_of_not_chained (.inl rfl),
    refused_of_not_chained (.inl (decide_eq_false hne)), refused_of_not_chained (.inr (decide_eq_false hne'))⟩

/-- The identities the bundled generator produces (CA, a server certificate for `localhost`, a client
    certificate, all signed by that CA) satisfy both directions. -/
theorem c15_generated_set_works (ca : Nat) :
    handshake ca ca (.signedBy ca "localhost") (.signedBy ca "localhost") = true := by
  rw [c15_policy]; simp [chainsTo, nameOf]

-- The first eight conjuncts are stated as obligations on the regenerated constants, for the record: the proofs below
-- evaluate the constants themselves (`validity_noExpiry`, `validity_dated`, the `simp [genCa, …]` step of
-- `presented_generated`), and `generated_set_accepted` consumes only the two `span` bounds.
/-- What the bundled generator makes (regenerated from `tools/src/commands/gen_certs`): entity certificates carry the
    name the client asks for, the usages of their roles, are signed by the generated CA, which is a CA; with
    `--no-expiry` the library's 1975–4096 applies; otherwise the validity reaches the same span (at most ten years,
    whatever number of days the generator is set to) either side of now. -/
theorem generator_facts : genEntitySan = serverName ∧ genServerEku = .serverAuth ∧ genClientEku = .clientAuth ∧
    genCaIsCa = true ∧ genEntityIsCa = false ∧ genEntitySignedByCa = true ∧ genValiditySymmetric = true ∧
    genNoExpirySkipsValidity = true ∧ span genCaValidityDays ≤ 315532800 ∧ span genEntityValidityDays ≤ 315532800 :=
  ⟨rfl, rfl, rfl, rfl, rfl, rfl, rfl, rfl, by decide, by decide⟩

theorem validity_noExpiry (days : Nat) (g : Int) : validity true days g = (rcgenNotBefore, rcgenNotAfter) := rfl

theorem validity_dated (days : Nat) (g : Int) : validity false days g = (g - (span days : Int), g + (span days : Int)) := rfl

/-- the moments `p` at which a certificate made at moment `g` for `days` days is meant to be valid: within `days` of `g`
    (1980 ≤ g), or, with `--no-expiry`, anywhere from 1975 to 4096 -/
def Covers (noExpiry : Bool) (days : Nat) (g p : Int) : Prop :=
  if noExpiry then rcgenNotBefore ≤ p ∧ p ≤ rcgenNotAfter
  else 315532800 ≤ g ∧ g - (span days : Int) ≤ p ∧ p ≤ g + (span days : Int)

theorem validAt_generated (noExpiry : Bool) (days : Nat) (hd : span days ≤ 315532800) (g p : Int) (c : GenCert)
    (hb : c.notBefore = (validity noExpiry days g).1) (ha : c.notAfter = (validity noExpiry days g).2)
    (hw : Covers noExpiry days g p) : validAt p c = true := by
  have hd' : (span days : Int) ≤ 315532800 := Int.ofNat_le.2 hd
  cases noExpiry with
  | true =>
    rw [validity_noExpiry] at hb ha
    simp only [validAt, hb, ha, hw.1, hw.2, decide_true]
    decide
  | false =>
    rw [validity_dated] at hb ha
    -- 315532800 s is both ten years and 1 January 1980: made in 1980 or later (`hw.1`) and back-dated by at most ten
    -- years (`hd'`), the certificate does not start before 1970
    simp only [validAt, hb, ha, hw.2.1, hw.2.2, Int.sub_nonneg.2 (Int.le_trans hd' hw.1), decide_true, Bool.and_self]

theorem presented_generated (ca : Nat) (role : Eku) (noExpiry : Bool) (g p : Int)
    (hca : validAt p (genCa ca noExpiry g) = true) (he : validAt p (genEntity ca role noExpiry g) = true) :
    presented p role (genCa ca noExpiry g) (genEntity ca role noExpiry g) = .signedBy ca "localhost" := by
  simp only [presented, hca, he]
  simp [genCa, genEntity, genCaIsCa, genEntityIsCa, genEntitySignedByCa, genEntitySan]

theorem generated_set_accepted (ca : Nat) (noExpiry : Bool) (g p : Int) (hc : Covers noExpiry genCaValidityDays g p)
    (he : Covers noExpiry genEntityValidityDays g p) :
    handshake ca ca
      (presented p genClientEku (genCa ca noExpiry g) (genEntity ca genClientEku noExpiry g))
      (presented p genServerEku (genCa ca noExpiry g) (genEntity ca genServerEku noExpiry g)) = true := by
  obtain ⟨-, -, -, -, -, -, -, -, hdCa, hdEntity⟩ := generator_facts
  have hca := validAt_generated noExpiry genCaValidityDays hdCa g p (genCa ca noExpiry g) rfl rfl hc
  have he := fun role => validAt_generated noExpiry genEntityValidityDays hdEntity g p (genEntity ca role noExpiry g) rfl rfl he
  rw [presented_generated ca _ noExpiry g p hca (he _), presented_generated ca _ noExpiry g p hca (he _)]
  exact c15_generated_set_works ca

/-- "The certificate set produced by the bundled generator satisfies both directions for localhost": for either
    setting of `--no-expiry` and any moment between 1980 and 4000, a client and a server that each present the
    generated certificate of their role and trust the generated CA complete the handshake. (A back-dated start that
    fell before 1970, or a validity that did not contain now, would make `presented` unusable.) -/
theorem c15_generator_set_works_both_ways (ca : Nat) (noExpiry : Bool) (now : Int)
    (h1 : 315532800 ≤ now) (h2 : now ≤ 64060588800) :
    handshake ca ca
      (presented now genClientEku (genCa ca noExpiry now) (genEntity ca genClientEku noExpiry now))
      (presented now genServerEku (genCa ca noExpiry now) (genEntity ca genServerEku noExpiry now)) = true := by
  have hw : ∀ days : Nat, Covers noExpiry days now now := by
    intro days
    have : (0 : Int) ≤ span days := Int.natCast_nonneg _
    cases noExpiry
    · exact ⟨h1, Int.sub_le_self _ this, Int.le_add_of_nonneg_right this⟩
    · exact ⟨Int.le_trans (by decide) h1, Int.le_trans h2 (by decide)⟩
  exact generated_set_accepted ca noExpiry now now (hw _) (hw _)

/-- … and also when the clocks of the generating machine and of the peers are not in step: a set generated at moment `g`
    (without `--no-expiry`) is accepted by peers whose clock reads `p`, for every `p` at most the configured number of days
    before or after `g` — the generator back-dates the start of validity by as much as it post-dates the end
    (`genValiditySymmetric`), so a peer that is minutes, hours or days behind does not find the certificates "not yet valid". -/
theorem c15_generator_set_tolerates_clock_skew (ca : Nat) (g p : Int)
    (h1 : 315532800 ≤ g) (h2 : g ≤ 64060588800)
    (hp1 : g - (span genCaValidityDays : Int) ≤ p) (hp2 : p ≤ g + (span genCaValidityDays : Int))
    (hp3 : g - (span genEntityValidityDays : Int) ≤ p) (hp4 : p ≤ g + (span genEntityValidityDays : Int)) :
    handshake ca ca
      (presented p genClientEku (genCa ca false g) (genEntity ca genClientEku false g))
      (presented p genServerEku (genCa ca false g) (genEntity ca genServerEku false g)) = true :=
  generated_set_accepted ca false g p ⟨h1, hp1, hp2⟩ ⟨h1, hp3, hp4⟩

/-- The defect this guards against, for the record: a validity of a hundred years either side of 2026 starts in 1926,
    before anything webpki can represent: such a certificate is unusable in both directions. -/
theorem c15_start_before_1970_is_unusable :
    validAt 1790000000 { issuer := 0, isCa := false, san := some "localhost", eku := some .serverAuth,
                          notBefore := 1790000000 - 36500 * 86400, notAfter := 1790000000 + 36500 * 86400 } = false := by
  decide

/-- the full table of the property's quantifier: client {trusted, other CA, self-signed, none} x server
    {trusted, other CA}; CA 0 is the configured one, CA 1 another -/
example : [Identity.signedBy 0 "localhost", .signedBy 1 "localhost", .selfSigned, .absent].map
      (fun c => [Identity.signedBy 0 "localhost", .signedBy 1 "localhost"].map fun s => handshake 0 0 c s)
    = [[true, false], [false, false], [false, false], [false, false]] := rfl

end Selium.Tls

#print axioms Selium.Tls.validity_noExpiry
#print axioms Selium.Tls.validity_dated
#print axioms Selium.Tls.validAt_generated
#print axioms Selium.Tls.presented_generated
#print axioms Selium.Tls.config_is_mutual
#print axioms Selium.Tls.c15_policy
#print axioms Selium.Tls.refused_of_not_chained
#print axioms Selium.Tls.c15_untrusted_refused
#print axioms Selium.Tls.c15_generated_set_works
#print axioms Selium.Tls.generator_facts
#print axioms Selium.Tls.generated_set_accepted
#print axioms Selium.Tls.c15_generator_set_works_both_ways
#print axioms Selium.Tls.c15_start_before_1970_is_unusable
#print axioms Selium.Tls.c15_generator_set_tolerates_clock_skew
