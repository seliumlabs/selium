/-
C01 — Pub/sub fan-out: every subscriber gets every message once, in publisher order.

Model: `Route/PubSub.lean` (the router's `poll`, statement by statement, repaired code), `Sink/Fanout.lean`
(`FanoutMany`), `Route/StreamMap.lean` (tokio-stream's `StreamMap`, exact), scripted children. Theorems hold for
every history of registrations / channel close / polls, every script of every publisher stream and subscriber
sink (ready, pending, error at any point), every random start of `StreamMap`, any number of peers.
Isolation between topics (a message of topic a never reaches a subscriber of topic b) is the second part of this file,
`c01_no_other_topic_interferes` over the whole server; that one registration touches no other name's entry is
`c11_registry_isolation` in `Props/C11.lean`. Each name owns its own router state.
-/
import SeliumModel.Lemmas.PubSub
import SeliumModel.Lemmas.PubSubOrder
import SeliumModel.Lemmas.System

namespace Selium.Route
open Selium.Sink
variable {α : Type}

/-- For every reachable router state and every subscriber sink still registered: what it was handed so far,
    plus the one item taken from a publisher but not yet written, is exactly the run of accepted items from the
    point its registration was processed — byte-for-byte the same items, each once, in the order accepted,
    nothing skipped. An evicted sink got a prefix of that run (never a duplicate or a reordering). -/
theorem c01_exactly_once_in_order (history : List (Event α)) :
    (∀ k ∈ (exec history).sinks,
        k.regAt ≤ (exec history).accepted.length ∧
        k.got ++ (exec history).buffered.toList = (exec history).accepted.drop k.regAt) ∧
    (∀ k ∈ (exec history).evicted, k.got <+: (exec history).accepted.drop k.regAt) := by
  have := exec_inv history
  exact ⟨this.1, fun k hk => (this.2 k hk).2⟩

/-- The same, as a one-step statement: any single poll preserves the invariant from any state satisfying it. -/
theorem c01_poll_preserves (fuel : Nat) (oracle : List Nat) (s : PS α) (h : Inv s) :
    Inv (pollFuel fuel oracle s).2.1 := pollFuel_inv fuel oracle s h

/-- Once a poll ends without being blocked by a subscriber sink (the router is idle, is waiting for
    publishers, or has finished), nothing the router accepted is left undelivered or unflushed: no item is
    buffered and a successful flush covers everything each subscriber was handed. -/
theorem c01_nothing_left_behind (fuel : Nat) (oracle : List Nat) (s : PS α)
    (h : (pollFuel fuel oracle s).1 = .idle ∨ (pollFuel fuel oracle s).1 = .waitingStreams ∨
         (pollFuel fuel oracle s).1 = .done) :
    (pollFuel fuel oracle s).2.1.buffered = none ∧
    ∀ k ∈ (pollFuel fuel oracle s).2.1.sinks, k.flushed = k.got.length :=
  pollFuel_flushed fuel oracle s h

/-- Together: in such a state every registered subscriber has received, and had flushed, every item accepted
    since its registration. -/
theorem c01_delivered_and_flushed (history : List (Event α)) (fuel : Nat) (oracle : List Nat)
    (h : (pollFuel fuel oracle (exec history)).1 = .idle ∨ (pollFuel fuel oracle (exec history)).1 = .waitingStreams ∨
         (pollFuel fuel oracle (exec history)).1 = .done) :
    ∀ k ∈ (pollFuel fuel oracle (exec history)).2.1.sinks,
      k.got = (pollFuel fuel oracle (exec history)).2.1.accepted.drop k.regAt ∧ k.flushed = k.got.length :=
  pollFuel_delivered fuel oracle _ (exec_inv history) h

/-- Publisher order. For every reachable router state and every publisher stream the topic ever adopted (live or
    already gone): the items accepted from it are, in the order accepted, a prefix of the items it held when it
    was adopted — nothing from one publisher is reordered, duplicated or skipped on the way into the router,
    whatever `StreamMap`'s random starts, its `swap_remove` reshuffling and the Pending answers were. For a
    stream that is still live, what was accepted followed by what it still holds is exactly what it came with. -/
theorem c01_publisher_order (history : List (Event α)) :
    (∀ sid, fromPub (exec history).accepted (exec history).src sid <+:
              itemsOf ((exec history).scripts[sid]?.getD [])) ∧
    (∀ st ∈ (exec history).streams,
        fromPub (exec history).accepted (exec history).src st.id ++ itemsOf st.script =
          itemsOf ((exec history).scripts[st.id]?.getD [])) :=
  ⟨(exec_ledger history).accepted_prefix, fun _ => (exec_ledger history).live⟩

/-- What a subscriber observes of any one publisher: the items it was handed (plus the one buffered for it) that
    came from publisher `sid` form one contiguous run of that publisher's sequence, in that publisher's order —
    the run that starts where the subscriber's registration was processed. -/
theorem c01_subscriber_sees_publisher_run (history : List (Event α)) (sid : Nat) :
    ∀ k ∈ (exec history).sinks, ∃ before,
      before ++ fromPub (k.got ++ (exec history).buffered.toList) ((exec history).src.drop k.regAt) sid <+:
        itemsOf ((exec history).scripts[sid]?.getD []) := by
  intro k hk
  have hp := exec_ledger history
  have hi := (c01_exactly_once_in_order history).1 k hk
  refine ⟨fromPub ((exec history).accepted.take k.regAt) ((exec history).src.take k.regAt) sid, ?_⟩
  rw [hi.2, ← fromPub_append _ _ _ _ _ (by rw [List.length_take, List.length_take, hp.tagged]), List.take_append_drop,
    List.take_append_drop]
  exact hp.accepted_prefix sid

/-- A publisher that has gone was forwarded completely: for every reachable router state and every publisher
    stream the topic adopted and no longer holds (`StreamMap` only lets go of a stream that has ended), the items
    accepted from it are exactly the items it came with, in its order. -/
theorem c01_ended_publisher_fully_accepted (history : List (Event α)) (sid : Nat)
    (hlt : sid < (exec history).nextStream) (hgone : ∀ st ∈ (exec history).streams, st.id ≠ sid) :
    fromPub (exec history).accepted (exec history).src sid = itemsOf ((exec history).scripts[sid]?.getD []) :=
  (exec_ledger history).gone hgone

/-- End to end through the router: once a poll ends without being blocked by a subscriber, a subscriber that was
    registered before anything was accepted has received — and had flushed — everything every ended publisher
    sent: the part of what it got that came from publisher `sid` is `sid`'s whole sequence, in order. -/
theorem c01_subscriber_gets_all_of_an_ended_publisher (history : List (Event α)) (fuel : Nat) (oracle : List Nat)
    (h : (pollFuel fuel oracle (exec history)).1 = .idle ∨ (pollFuel fuel oracle (exec history)).1 = .waitingStreams ∨
         (pollFuel fuel oracle (exec history)).1 = .done)
    (k : Child α) (hk : k ∈ (pollFuel fuel oracle (exec history)).2.1.sinks) (hreg : k.regAt = 0)
    (sid : Nat) (hlt : sid < (pollFuel fuel oracle (exec history)).2.1.nextStream)
    (hgone : ∀ st ∈ (pollFuel fuel oracle (exec history)).2.1.streams, st.id ≠ sid) :
    fromPub k.got (pollFuel fuel oracle (exec history)).2.1.src sid =
        itemsOf ((pollFuel fuel oracle (exec history)).2.1.scripts[sid]?.getD []) ∧
      k.flushed = k.got.length := by
  have hd := c01_delivered_and_flushed history fuel oracle h k hk
  rw [hreg, List.drop_zero] at hd
  refine ⟨?_, hd.2⟩
  rw [hd.1]
  exact (pollFuel_ledger fuel oracle _ (exec_ledger history)).gone hgone

/-! Non-vacuity: a concrete run — two subscribers (one not ready at first), one publisher with two items. -/
def exHistory : List (Event Nat) :=
  [.enqueue (.sink { id := 0, readyQ := [.pending] }), .enqueue (.sink { id := 0 }),
   .enqueue (.stream [.item 7, .item 8]), .poll 20 [], .poll 20 [], .poll 20 []]

def exHistory2 : List (Event Nat) :=
  [.enqueue (.stream [.item 1, .pending, .item 2]), .enqueue (.stream [.pending, .item 10, .item 11]),
   .enqueue (.sink { id := 0 }), .poll 20 [1, 0], .poll 20 [0, 1], .poll 20 [1], .poll 20 []]

example : (exec exHistory2).accepted = [1, 10, 2, 11] ∧ (exec exHistory2).src = [0, 1, 0, 1] ∧
    fromPub (exec exHistory2).accepted (exec exHistory2).src 0 = [1, 2] ∧
    fromPub (exec exHistory2).accepted (exec exHistory2).src 1 = [10, 11] := by decide +kernel

example : (exec exHistory).accepted = [7, 8] ∧ (exec exHistory).sinks.map (·.got) = [[7, 8], [7, 8]] ∧
    (exec exHistory).sinks.map (·.flushed) = [2, 2] ∧ (exec exHistory).buffered = none := by decide +kernel

end Selium.Route

/-! `Server/System.lean` composes `handle_stream`'s registry with one router per name. -/
namespace Selium.Server
open Selium.Route Selium.Sink

/-- The fan-out theorem holds for every topic of a whole server, whatever else the server is doing: in any history
    of streams being opened (for any names, roles, valid or not), routers being polled and shutdown, each
    subscriber of topic `n` has been handed exactly the run of messages `n`'s router accepted since its
    registration — each once, in order. -/
theorem c01_every_topic_of_the_server (history : List SEvent) (n : Name) :
    (∀ k ∈ ((sysExec history).ps n).sinks,
        k.regAt ≤ ((sysExec history).ps n).accepted.length ∧
        k.got ++ ((sysExec history).ps n).buffered.toList = ((sysExec history).ps n).accepted.drop k.regAt) ∧
    (∀ k ∈ ((sysExec history).ps n).evicted, k.got <+: ((sysExec history).ps n).accepted.drop k.regAt) := by
  rw [sys_ps_is_router]; exact c01_exactly_once_in_order _

/-- "… and to no subscriber of any other topic." The router state of topic `n` — its publishers, what it accepted,
    and everything each of its subscribers was handed — is the same as in the history from which every event that
    does not mention `n` was deleted: whatever is published, registered, polled or failing under another name
    reaches no subscriber of `n`, and nothing addressed to `n` is diverted elsewhere. -/
theorem c01_no_other_topic_interferes (history : List SEvent) (n : Name) :
    (sysExec history).ps n = (sysExec (history.filter (mentions n))).ps n :=
  (sys_topic_independent n history).2.1

/-- A message only ever enters the router of the name its publisher registered on: the events a topic's router sees
    are the registrations whose first frame named it (and were accepted), its own polls, and shutdown. -/
theorem c01_topic_router_sees_only_its_own_events (history : List SEvent) (n : Name) :
    (sysExec history).ps n = Route.exec (psEvents n [] history) := sys_ps_is_router n history

/-! Non-vacuity: two topics on one server; a publisher and a subscriber on each; what is published on one is
    handed to that topic's subscriber only. -/
def nameA : Name := { ns := [97, 97, 97], tp := [120, 120, 120] }
def nameB : Name := { ns := [97, 97, 97], tp := [121, 121, 121] }
def exServer : List SEvent :=
  [.openStream (some (.register .subscriber nameA)) { id := 0 } [],
   .openStream (some (.register .subscriber nameB)) { id := 0 } [],
   .openStream (some (.register .publisher nameA)) { id := 0 } [.item (.msg none 1), .item (.msg none 2)],
   .openStream (some (.register .publisher nameB)) { id := 0 } [.item (.msg none 7)],
   .pollPubsub nameA 20 [], .pollPubsub nameB 20 [], .pollPubsub nameA 20 [], .pollPubsub nameB 20 []]

example : ((sysExec exServer).ps nameA).sinks.map (·.got) = [[.msg none 1, .msg none 2]] ∧
    ((sysExec exServer).ps nameB).sinks.map (·.got) = [[.msg none 7]] := by decide +kernel

end Selium.Server

#print axioms Selium.Route.c01_exactly_once_in_order
#print axioms Selium.Route.c01_poll_preserves
#print axioms Selium.Route.c01_nothing_left_behind
#print axioms Selium.Route.c01_delivered_and_flushed
#print axioms Selium.Route.c01_publisher_order
#print axioms Selium.Route.c01_subscriber_sees_publisher_run
#print axioms Selium.Route.c01_ended_publisher_fully_accepted
#print axioms Selium.Route.exec_snoc
#print axioms Selium.Route.c01_subscriber_gets_all_of_an_ended_publisher
#print axioms Selium.Server.c01_every_topic_of_the_server
#print axioms Selium.Server.c01_no_other_topic_interferes
#print axioms Selium.Server.c01_topic_router_sees_only_its_own_events
