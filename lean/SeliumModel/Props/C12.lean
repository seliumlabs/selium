/-
C12 — Streams re-establish themselves after connection loss, within the retry budget.

Proved: the retry logic (`Client/KeepAlive.lean`), with the scope of the attempt budget and the requestor's
reader restart read from the source by the translator. Exercised, not proved: that reconnecting (quinn,
TLS, re-registration on the server) actually works — the `e2erec` suite cuts real connections with the
`verif-hooks` method, more often than the budget of one outage, and checks traffic after each recovery, and
that exhaustion is reported as too-many-retries when every attempt fails.
-/
import SeliumModel.Lemmas.KeepAlive
import SeliumModel.Lemmas.SharedConn
import SeliumModel.Lemmas.Backoff

namespace Selium.KeepAlive
open Selium.Gen.KeepAlive

/-- obligations on the regenerated source facts: every stream kind creates its backoff iterator per outage, the
    requestor starts a reply reader for the new stream, and connection-level errors (and a replier slot still
    being occupied) are classified as recoverable -/
theorem budgets_per_outage : replierBudgetPerOutage = true ∧ requestorBudgetPerOutage = true ∧
    pubsubBudgetPerOutage = true ∧ requestorRestartsReader = true ∧ replierRefusalCountsAsAttempt = true := by decide

theorem recoverable_classification : ioConnectionResetRecoverable = true ∧ ioNotConnectedRecoverable = true ∧
    quicConnectionErrorRecoverable = true ∧ replierAlreadyBoundRecoverable = true := by decide

/-- … and a connection that is lost while a (re-)registration awaits its answer reaches that classification as the read
    error it is: `handle_reply` hands it on unchanged, so the attempt counts as a recoverable failure (`Attempt.recoverable`
    in `reconnect`), not as a refusal by the server -/
theorem registration_loss_is_an_ordinary_loss : registrationReadErrorPassedOn = true := by decide

/-- all attempts of one outage fail (recoverably) ⇔ the stream reports too-many-retries — it neither hangs
    nor gives up earlier -/
theorem c12_exhaustion_iff (m : Nat) (rs : List Attempt) :
    (reconnect m rs).1 = .tooManyRetries ↔ ∀ i, i < m → rs.getD i .recoverable = .recoverable := by
  rcases reconnect_spec m rs with ⟨h, e⟩ | ⟨k, hk, _, hne, e⟩ <;> rw [e]
  · exact ⟨fun _ => h, fun _ => rfl⟩
  · exact ⟨fun h => absurd h (decided_ne hne), fun h => absurd (h k hk) hne⟩

/-- … and it gives up only after having made every one of the configured attempts: an outage that ends in
    too-many-retries used exactly `m` attempts, and no outage ever uses more -/
theorem c12_exhausted_outage_used_the_whole_budget (m : Nat) (rs : List Attempt)
    (h : (reconnect m rs).1 = .tooManyRetries) : (reconnect m rs).2 = m := by
  rcases reconnect_spec m rs with ⟨_, e⟩ | ⟨k, hk, _, hne, _⟩
  · rw [e]
  · exact absurd ((c12_exhaustion_iff m rs).1 h k hk) hne

/-- "for all backoff configurations": the attempts of one outage are the items of the strategy's schedule (both wrappers
    call `attempts.next()` until it ends), and whatever the law, step, factor, cap — also where the delay saturates — the
    schedule has exactly the configured number of items (model `Backoff.lean`, tied to the code by the `backoff` suite) -/
theorem c12_every_backoff_configuration_supplies_the_whole_budget (c : Selium.Backoff.Cfg) :
    (Selium.Backoff.schedule c).length = c.maxAttempts := Selium.Backoff.schedule_length c

/-- … so an outage in which every attempt of the schedule fails recoverably ends in too-many-retries after exactly the
    configured number of attempts, for every configuration -/
theorem c12_exhaustion_after_the_whole_schedule (c : Selium.Backoff.Cfg) (rs : List Attempt)
    (hall : ∀ i, i < c.maxAttempts → rs.getD i .recoverable = .recoverable) :
    reconnect (Selium.Backoff.schedule c).length rs = (Outcome.tooManyRetries, c.maxAttempts) := by
  rw [c12_every_backoff_configuration_supplies_the_whole_budget]
  have h1 := (c12_exhaustion_iff c.maxAttempts rs).mpr hall
  have h2 := c12_exhausted_outage_used_the_whole_budget c.maxAttempts rs h1
  exact Prod.ext h1 h2

/-- an unrecoverable error is reported immediately: at the first attempt that hits it, without using the rest
    of the budget -/
theorem c12_fatal_immediate (m k : Nat) (rs : List Attempt) (hk : k < m)
    (hrec : ∀ i, i < k → rs.getD i .recoverable = .recoverable) (hf : rs.getD k .recoverable = .fatal) :
    reconnect m rs = (.fatalError, k + 1) := by
  rw [reconnect_decided m k rs hk hrec (by rw [hf]; exact nofun), hf]; rfl

/-- the first successful attempt within the budget re-establishes the stream -/
theorem c12_recovers (m k : Nat) (rs : List Attempt) (hk : k < m)
    (hrec : ∀ i, i < k → rs.getD i .recoverable = .recoverable) (hok : rs.getD k .recoverable = .ok) :
    reconnect m rs = (.reconnected, k + 1) := by
  rw [reconnect_decided m k rs hk hrec (by rw [hok]; exact nofun), hok]; rfl

/-- Each outage gets the full configured number of attempts, however many earlier outages were survived: with
    the budget scoped per outage (as `budgets_per_outage` shows the code does), the outcome of every outage is
    `reconnect maxAttempts` of that outage alone. -/
theorem c12_budget_per_outage (m : Nat) (left : Nat) (outages : List (List Attempt)) :
    life true m left outages =
      (outages.map fun o => (reconnect m o).1).take
        ((outages.takeWhile fun o => (reconnect m o).1 = .reconnected).length + 1) := by
  induction outages generalizing left with
  | nil => rfl
  | cons o os ih =>
    rw [life, List.takeWhile_cons, List.map_cons]
    simp only [if_true]
    rcases reconnect m o with ⟨_ | _ | _, used⟩
    · simp only [decide_true, if_true, List.length_cons, List.take_succ_cons, ih]
    · rfl
    · rfl

/-- in particular a stream survives any number of outages if each one has a successful attempt within the
    budget — the counter-example to a lifetime budget -/
theorem c12_survives_any_number_of_outages (m : Nat) (hm : 0 < m) (n : Nat) :
    life true m m (List.replicate n [Attempt.ok]) = List.replicate n Outcome.reconnected := by
  have h1 : (reconnect m [Attempt.ok]).1 = .reconnected := by
    cases m with
    | zero => cases hm
    | succ k => rfl
  rw [c12_budget_per_outage, List.map_replicate, h1, List.takeWhile_replicate, h1]
  simp

/-- A replier whose every registration is refused (another replier stays bound; the server is reachable, so each
    reconnection itself succeeds at once) reports too-many-retries after exactly `maxAttempts` tries — it does not
    retry for ever. -/
theorem c12_displaced_replier_gives_up (m k : Nat) :
    replierLife true true m m (List.replicate (m + 1 + k) { refused := true, attempts := [.ok] }) =
      List.replicate m Outcome.reconnected ++ [.tooManyRetries] := by
  -- `m` refusals use up the budget; the next one finds nothing left
  rw [Nat.add_assoc, ← List.replicate_append_replicate, Nat.add_comm 1 k]
  exact replierLife_refused m m 0 _

/-- … while a cut always starts a new outage with the full budget, whatever happened before (refusals included) -/
theorem c12_replier_cut_gets_full_budget (m left : Nat) (as : List Attempt) (ss : List Session) :
    replierLife true true m left ({ refused := false, attempts := as } :: ss) =
      match reconnect m as with
      | (.reconnected, used) => .reconnected :: replierLife true true m (m - used) ss
      | (out, _) => [out] := rfl

/-- a waiting replier that still has attempts left takes over as soon as a registration is not refused: refusals
    fewer than the budget are all survived -/
theorem c12_waiting_replier_survives (m k : Nat) (hk : k ≤ m) :
    replierLife true true m m (List.replicate k { refused := true, attempts := [.ok] }) =
      List.replicate k Outcome.reconnected := by
  obtain ⟨l, rfl⟩ := Nat.exists_eq_add_of_le hk
  rw [← List.append_nil (List.replicate k _), replierLife_refused (k + l) k l []]
  exact List.append_nil _

example : replierLife true false 3 3 (List.replicate 9 { refused := true, attempts := [.ok] }) = List.replicate 9 .reconnected := rfl
example : replierLife true true 3 3 (List.replicate 9 { refused := true, attempts := [.ok] }) = [.reconnected, .reconnected, .reconnected, .tooManyRetries] := rfl

/-- … whereas a lifetime budget (the unrepaired replier) gives up after `maxAttempts` outages in total -/
example : life false 2 2 (List.replicate 4 [Attempt.ok]) = [.reconnected, .reconnected, .tooManyRetries] := rfl
example : life true 2 2 (List.replicate 4 [Attempt.ok]) = [.reconnected, .reconnected, .reconnected, .reconnected] := rfl
example : reconnect 3 [.recoverable, .recoverable, .recoverable, .ok] = (.tooManyRetries, 3) := rfl
example : reconnect 3 [.recoverable, .fatal, .ok] = (.fatalError, 2) := rfl

/-! `Client/KeepAliveSM.lean`: one `poll_ready` / `poll_flush` / `poll_next` of `KeepAlive<T>`. Where the wrapper fires the
task's waker itself is regenerated from `keep_alive/pubsub.rs`. -/

/-- the wrapper wakes itself where it has to (regenerated from the source on every run) -/
theorem c12_wrapper_wakes_itself : wakesOnExhaustion = true ∧ wakesAfterArmingAttempt = true ∧ wakesOnReconnect = true := by
  decide

/-- "instead of hanging": whenever a poll of the wrapper returns Pending, either it fired the task's waker itself or
    something it polled (the inner stream, the reconnection attempt) answered Pending and holds it — in every status,
    for every answer of the inner stream and of the attempt, for every budget (wake sites as regenerated). -/
theorem c12_no_lost_wakeup (max : Nat) (s : Status) (inner : InnerAns) (attempt : AttemptAns)
    (h : (poll { max := max } s inner attempt).seen = .pending) :
    (poll { max := max } s inner attempt).woke = true ∨ (poll { max := max } s inner attempt).childHolds = true :=
  poll_wake { max := max } c12_wrapper_wakes_itself.2.1 c12_wrapper_wakes_itself.1 c12_wrapper_wakes_itself.2.2 s inner attempt h

/-- `close()` during an outage does not strand the task either: `poll_close` keeps the reconnection going (regenerated),
    so a Pending answer comes with a waker held or fired, as for the other operations. -/
theorem c12_close_no_lost_wakeup (max : Nat) (s : Status) (inner : InnerAns) (attempt : AttemptAns)
    (h : (pollClose { max := max } closeKeepsReconnecting s inner attempt).seen = .pending) :
    (pollClose { max := max } closeKeepsReconnecting s inner attempt).woke = true ∨
    (pollClose { max := max } closeKeepsReconnecting s inner attempt).childHolds = true := by
  cases s with
  | connected =>
    cases inner with
    | pending => exact .inr rfl
    | ready | failed | disconnected => cases h
  | exhausted => cases h
  | disconnected left =>
    -- `closeKeepsReconnecting = true`: the poll of the other operations
    exact c12_no_lost_wakeup max (.disconnected left) inner attempt h

/-- The defect this guards against, for the record: a `poll_close` that answers Pending while Disconnected without polling
    anything leaves the task with no waker at all. -/
theorem c12_close_without_polling_strands_the_task (max left : Nat) (inner : InnerAns) (attempt : AttemptAns) :
    (pollClose { max := max } false (.disconnected left) inner attempt).seen = .pending ∧
    (pollClose { max := max } false (.disconnected left) inner attempt).woke = false ∧
    (pollClose { max := max } false (.disconnected left) inner attempt).childHolds = false :=
  ⟨rfl, rfl, rfl⟩

/-- When every attempt of an outage fails, the stream reports too-many-retries — under an executor that polls only on
    wake-up, after exactly as many polls as the budget has attempts (plus the one that noticed the loss and the one
    that reports): it does not hang, whatever the budget, zero included. -/
theorem c12_exhaustion_is_reported (max : Nat) :
    driveUntilValue { max := max } (max + 3) .connected = List.replicate (max + 1) .pending ++ [.tooManyRetries] :=
  drive_connected { max := max } c12_wrapper_wakes_itself.2.1 c12_wrapper_wakes_itself.1

/-- The defect this guards against, for the record: a wrapper that does not fire the waker when the budget runs out
    sleeps for good one poll before it would have reported (budget 1: noticed, one failed attempt, asleep). -/
theorem c12_silent_exhaustion_hangs :
    driveUntilValue { max := 1, perOutage := true, wakeArm := true, wakeExhaust := false, wakeSuccess := true } 10 .connected
      = [.pending, .pending] := by
  decide

end Selium.KeepAlive

/-! ## The connection shared by all streams of a `Client` (`client/src/connection.rs`) -/
namespace Selium.SharedConn
open Selium.Gen.Connection

/-- regenerated from `ClientConnection::reconnect`: a new connection is dialled only when the current one is closed -/
theorem reconnect_only_if_closed : reconnectOnlyIfClosed = true := by decide

/-- A stream that re-establishes itself does not disturb its siblings: whatever stream `i` does, a stream `j` that
    was working (registered on the client's current, open connection) still is. -/
theorem c12_sibling_recovery_does_not_disturb (s : St) (i j : Nat) (h : working s j) :
    working (reestablish reconnectOnlyIfClosed s i) j := by
  rw [reconnect_only_if_closed]
  exact reestablish_sibling s i j h

/-- … and the stream that re-established itself works. -/
theorem c12_reestablished_stream_works (s : St) (i : Nat) (hi : i < s.regs.length) :
    working (reestablish reconnectOnlyIfClosed s i) i := by
  rw [reconnect_only_if_closed]
  exact reestablish_self s i hi

/-- After a connection loss, in whatever order the streams of a client re-establish themselves (one after the other
    under the connection's mutex; any stream any number of times), every stream that has done so works: all of them
    end up registered on one and the same open connection. From any state — in particular the one a cut leaves. -/
theorem c12_all_siblings_recover (order : List Nat) : ∀ (s : St),
    ∀ j ∈ order, j < s.regs.length → working (run reconnectOnlyIfClosed s order) j :=
  fun s j hj hlt => by
    rw [reconnect_only_if_closed]
    exact run_working order s j hlt (.inr hj)

/-- Why the guard matters: were every `reconnect()` to dial a new connection (dropping the one it replaces), two streams
    of one client that lose their connection and re-establish themselves in turn would never both work — the second
    one's reconnection cuts the first off again. -/
theorem c12_unconditional_redial_cuts_siblings :
    ¬ working (run false (cut { regs := [0, 0] }) [0, 1]) 0 ∧
    working (run true (cut { regs := [0, 0] }) [0, 1]) 0 ∧ working (run true (cut { regs := [0, 0] }) [0, 1]) 1 := by
  decide

end Selium.SharedConn

#print axioms Selium.KeepAlive.budgets_per_outage
#print axioms Selium.KeepAlive.recoverable_classification
#print axioms Selium.KeepAlive.reconnect_used_le
#print axioms Selium.KeepAlive.c12_exhaustion_iff
#print axioms Selium.KeepAlive.c12_exhausted_outage_used_the_whole_budget
#print axioms Selium.KeepAlive.c12_fatal_immediate
#print axioms Selium.KeepAlive.c12_recovers
#print axioms Selium.KeepAlive.c12_budget_per_outage
#print axioms Selium.KeepAlive.c12_survives_any_number_of_outages
#print axioms Selium.KeepAlive.c12_displaced_replier_gives_up
#print axioms Selium.KeepAlive.c12_replier_cut_gets_full_budget
#print axioms Selium.KeepAlive.c12_waiting_replier_survives
#print axioms Selium.KeepAlive.c12_wrapper_wakes_itself
#print axioms Selium.KeepAlive.poll_wake
#print axioms Selium.KeepAlive.c12_no_lost_wakeup
#print axioms Selium.KeepAlive.drive_connected
#print axioms Selium.KeepAlive.c12_close_no_lost_wakeup
#print axioms Selium.KeepAlive.c12_close_without_polling_strands_the_task
#print axioms Selium.KeepAlive.drive_disconnected
#print axioms Selium.KeepAlive.c12_exhaustion_is_reported
#print axioms Selium.KeepAlive.c12_silent_exhaustion_hangs
#print axioms Selium.SharedConn.reconnect_only_if_closed
#print axioms Selium.SharedConn.c12_sibling_recovery_does_not_disturb
#print axioms Selium.SharedConn.c12_reestablished_stream_works
#print axioms Selium.SharedConn.reestablish_length
#print axioms Selium.SharedConn.c12_all_siblings_recover
#print axioms Selium.SharedConn.c12_unconditional_redial_cuts_siblings
#print axioms Selium.KeepAlive.c12_every_backoff_configuration_supplies_the_whole_budget
#print axioms Selium.KeepAlive.c12_exhaustion_after_the_whole_schedule
#print axioms Selium.KeepAlive.registration_loss_is_an_ordinary_loss
