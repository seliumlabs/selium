/-
C06 / C05 for the batch format, stated about the code itself: `Gen/BatchFn.lean` is printed by the translator from
`protocol/src/utils.rs` on every run (`read_u64`, `decode_message_batch` and its loop). The bridge is
`Lemmas/BatchGen.lean` (generated definitions = hand-written `Wire.decodeBatch`, for every input, up to error text).
-/
import SeliumModel.Lemmas.BatchGen
import SeliumModel.Lemmas.Batch

namespace Selium.Wire
open Selium Selium.Gen

/-- what the translated batch decoder returns (without what it leaves of its input) -/
def genDecodeBatch (b : Bytes) : Rs.Out (List Bytes) := Rs.Out.value (BatchFn.decode_message_batch b)

/-- The translated batch decoder is the model's, for every input. -/
theorem c06_generated_batch_decoder_is_the_model (b : Bytes) :
    Rs.Out.shape (genDecodeBatch b) = Rs.Out.shape (toOut (decodeBatch b)) := gen_decode_batch_eq b

/-- No input makes the translated batch decoder panic: neither `get_u64` nor `split_to` is ever reached with too few
    bytes (each is a `panic` outcome of the generated definition), whatever count and lengths the input declares. -/
theorem c06_generated_batch_decoder_never_panics (b : Bytes) : Rs.Out.shape (genDecodeBatch b) ≠ .panic "" := by
  rw [c06_generated_batch_decoder_is_the_model, shape_toOut_ne_panic]
  exact decodeBatch_no_panic b

/-- What the translated batch decoder returns was in its input: the messages and their eight-byte length markers fit
    into the bytes that follow the count, whatever the count and the lengths claim. -/
theorem c06_generated_batch_decoder_bounded (b : Bytes) (ms : List Bytes)
    (h : Rs.Out.shape (genDecodeBatch b) = .ok ms) : (ms.map List.length).sum + 8 * ms.length + 8 ≤ b.length := by
  rw [c06_generated_batch_decoder_is_the_model, shape_toOut_eq_ok] at h
  exact decodeBatch_bounded b ms h

/-- Batch round trip through the translated decoder: it returns exactly the messages that were batched. -/
theorem c05_generated_batch_roundtrip (ms : List Bytes) (hn : ms.length < 256 ^ 8) (hm : ∀ m ∈ ms, m.length < 256 ^ 8) :
    Rs.Out.shape (genDecodeBatch (encodeBatch ms)) = .ok ms := by
  rw [c06_generated_batch_decoder_is_the_model, decodeBatch_encodeBatch ms hn hm]
  rfl

/-! Non-vacuity, evaluated through the model as in `Props/C05Gen`: a batch of two messages; a count that promises more
    than is there; a length that promises more than is there. -/
set_option maxRecDepth 8192 in
example : Rs.Out.shape (genDecodeBatch [0,0,0,0,0,0,0,2, 0,0,0,0,0,0,0,1, 7, 0,0,0,0,0,0,0,0]) = .ok [[7], []] := by
  rw [c06_generated_batch_decoder_is_the_model, shape_toOut_eq_ok]; decide +kernel
set_option maxRecDepth 8192 in
example : Rs.Out.shape (genDecodeBatch [0,0,0,0,0,0,0,3, 0,0,0,0,0,0,0,0]) = .err "" := by
  rw [c06_generated_batch_decoder_is_the_model]; rfl
set_option maxRecDepth 8192 in
example : Rs.Out.shape (genDecodeBatch [0,0,0,0,0,0,0,1, 0xff,0xff,0xff,0xff,0xff,0xff,0xff,0xff, 1]) = .err "" := by
  rw [c06_generated_batch_decoder_is_the_model]; rfl

end Selium.Wire

#print axioms Selium.Wire.c06_generated_batch_decoder_is_the_model
#print axioms Selium.Wire.c06_generated_batch_decoder_never_panics
#print axioms Selium.Wire.c06_generated_batch_decoder_bounded
#print axioms Selium.Wire.c05_generated_batch_roundtrip
