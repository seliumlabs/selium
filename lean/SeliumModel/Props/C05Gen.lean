/-
C05 / C06, stated about the code itself: `Gen/CodecFn.lean` is printed by the translator from
`protocol/src/codec.rs` on every run (`validate_payload_length`, `<MessageCodec as Decoder>::decode`,
`<MessageCodec as Encoder<Frame>>::encode`). The bridge is `Lemmas/CodecGen.lean` (generated definitions = hand-written
`Wire.decode` / `Wire.encode`, for every buffer and frame, up to the text of errors). `Frame::try_from` and
`Frame::{get_length, get_type, write_to_bytes}` enter the generated definitions as parameters and are instantiated with
the model's (built from the regenerated tag and schema tables).
-/
import SeliumModel.Lemmas.CodecGen
import SeliumModel.Lemmas.Framed
import SeliumModel.Lemmas.Total

namespace Selium.Wire
open Selium Selium.Gen Selium.Gen.Frame

/-- the translated decoder over the model's `Frame::try_from` -/
def genDecode (src : Bytes) : Rs.Out (Option Frame × Bytes) :=
  CodecFn.decode (fun t b => toOut (tryFrom t b)) src

/-- What the translated decoder does with any buffer is what the model does: same decision, same frame, same
    bytes left in the buffer. -/
theorem c05_generated_decode_is_the_model (src : Bytes) :
    Rs.Out.shape (genDecode src) = Rs.Out.shape (toOut (decode src)) := gen_decode_eq src

/-- Decoding the encoding of any sendable frame with the translated decoder yields that frame and leaves exactly
    the bytes that followed it. -/
theorem c05_generated_decode_roundtrip (f : Frame) (hs : f.sendable) (rest : Bytes) :
    ∃ wire, encode f = .ok wire ∧ Rs.Out.shape (genDecode (wire ++ rest)) = .ok (some f, rest) := by
  obtain ⟨body, hb, hlen, henc⟩ := encode_sendable f hs
  refine ⟨_, henc, ?_⟩
  rw [c05_generated_decode_is_the_model, decode_encoded f body rest hs.1 hb hlen]
  rfl

/-- The translated decoder refuses a length prefix above the limit as soon as the nine header bytes are there,
    whatever else is or is not buffered. -/
theorem c05_generated_decode_limit (src : Bytes) (h9 : 9 ≤ src.length) (hbig : maxMessageSize < declaredLen src) :
    Rs.Out.shape (genDecode src) = .err "" := by
  rw [c05_generated_decode_is_the_model, decode_too_large src h9 hbig]
  rfl

/-- When the translated decoder asks for more bytes it has consumed nothing. -/
theorem c05_generated_decode_waits_without_consuming (src left : Bytes)
    (h : Rs.Out.shape (genDecode src) = .ok (none, left)) : left = src :=
  decode_none_same src left (shape_toOut_eq_ok.1 (c05_generated_decode_is_the_model src ▸ h))

/-- C06 for the translated decoder: no buffer makes it panic — not in `&src[..8]`, `advance`, `get_u8` or `split_to`
    (each is a `panic` outcome of the generated definition), nor in `Frame::try_from`. -/
theorem c06_generated_decode_never_panics (src : Bytes) : Rs.Out.shape (genDecode src) ≠ .panic "" := by
  rw [c05_generated_decode_is_the_model, shape_toOut_ne_panic]
  exact decode_no_panic src

/-- the translated encoder over the model's `Frame::{get_length, get_type, write_to_bytes}` -/
def genEncode (f : Frame) (dst : Bytes) : Rs.Out (Unit × Bytes) :=
  CodecFn.encode (fun f => toOut (getLength f)) getType
    (fun f d => appendTo d (payloadBytes (writeBody f.kind) f.payload)) f dst

/-- What the translated encoder does to any buffer is what the model says: it appends the model's encoding, or
    refuses and the model refuses. -/
theorem c05_generated_encode_is_the_model (f : Frame) (dst : Bytes) :
    Rs.Out.shape (genEncode f dst) = Rs.Out.shape (appendTo dst (encode f)) := gen_encode_eq f dst

/-- The translated encoder refuses every frame whose payload is over the limit (and writes a length prefix for
    no such frame). -/
theorem c05_generated_encode_limit (f : Frame) (body dst : Bytes)
    (hb : payloadBytes (writeBody f.kind) f.payload = .ok body) (hbig : maxMessageSize < body.length) :
    Rs.Out.shape (genEncode f dst) = .err "" := by
  rw [c05_generated_encode_is_the_model, encode_too_large f body hb hbig]
  rfl

/-- Translated encoder, then translated decoder: for every sendable frame, whatever was in the write buffer before
    and whatever follows on the wire, decoding what was appended yields the frame and leaves what followed. -/
theorem c05_generated_encode_then_decode (f : Frame) (hs : f.sendable) (rest : Bytes) :
    ∃ wire, Rs.Out.shape (genEncode f []) = .ok ((), wire) ∧
      Rs.Out.shape (genDecode (wire ++ rest)) = .ok (some f, rest) := by
  obtain ⟨wire, henc, hdec⟩ := c05_generated_decode_roundtrip f hs rest
  refine ⟨wire, ?_, hdec⟩
  rw [c05_generated_encode_is_the_model, henc]
  rfl

/-! Non-vacuity: three buffers, one for each thing the decoder can do (the first and the last through the model: the
    elaborator's own evaluation of `u64::from_be_bytes` on numerals is slow; the second by the limit theorem). -/
set_option maxRecDepth 8192 in
example : Rs.Out.shape (genDecode [0, 0, 0, 0, 0, 0, 0, 0, 7]) = .ok (some ⟨.Ok, .none⟩, []) := by
  rw [c05_generated_decode_is_the_model]; rfl
set_option maxRecDepth 8192 in
example : Rs.Out.shape (genDecode [0, 0, 0, 0, 0, 0x20, 0, 0, 4]) = .err "" :=
  c05_generated_decode_limit _ (by decide +kernel) (by decide +kernel)
set_option maxRecDepth 8192 in
example : Rs.Out.shape (genDecode [0, 0, 0, 0, 0, 0, 0, 2, 5, 1]) = .ok (none, [0, 0, 0, 0, 0, 0, 0, 2, 5, 1]) := by
  rw [c05_generated_decode_is_the_model]; rfl

end Selium.Wire

#print axioms Selium.Wire.c05_generated_decode_is_the_model
#print axioms Selium.Wire.c05_generated_decode_roundtrip
#print axioms Selium.Wire.c05_generated_decode_limit
#print axioms Selium.Wire.c05_generated_decode_waits_without_consuming
#print axioms Selium.Wire.c06_generated_decode_never_panics
#print axioms Selium.Wire.c05_generated_encode_is_the_model
#print axioms Selium.Wire.c05_generated_encode_limit
#print axioms Selium.Wire.c05_generated_encode_then_decode
