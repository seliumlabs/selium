/-
C06 — No bytes from the network can crash a decoder.

Every decoding step Selium itself implements is a total function of the input bytes in the model: it yields a
value or an `err`, never `panic`. The decoders are modelled with their real failure points (`Res.panic` exists
in the result type, and the unrepaired `decode_message_batch` / reader-based `BincodeCodec::decode` did reach
it or aborted: DESIGN.md section 8 lists the defects and their repairs); these theorems say the repaired code
cannot. Memory: every length read from the wire is compared with the bytes actually present before anything is
copied (`takeBytes`, `decodeBatchN`), so a decoded value is never larger than the input it came from
(`c06_batch_bounded`).
Third-party decompressors are parameters (`Compressor.Total`): exercised in a child process under an
address-space limit by the `codec` suite, not proved. Theorems depending on that carry `_partial`.
-/
import SeliumModel.Lemmas.Total
import SeliumModel.Lemmas.Batch
import SeliumModel.Wire.Framed
import SeliumModel.Lemmas.Codecs
import SeliumModel.Client.Subscriber
import SeliumModel.Gen.Client

namespace Selium.Client
open Selium Selium.Bincode Selium.Wire

/-- `MessageCodec::decode` on any buffer: a frame, "need more", or an error. -/
theorem c06_frame_total (src : Bytes) (s : String) : decode src ≠ .panic s := decode_no_panic src s

theorem drain_no_panic_item (buf : Bytes) : ∀ i ∈ (drain buf).1, ∀ s, i ≠ .panic s := by
  -- `case1`: a frame, then the items of the rest; `case4`: `decode` panics; `case2`, `case3`: no item, an error item
  fun_induction drain buf with
  | case1 x f rest hd _ r ih => exact List.forall_mem_cons.2 ⟨fun _ => nofun, ih⟩
  | case4 x s hd => exact absurd hd (decode_no_panic x s)
  | _ => simp

/-- Whatever bytes arrive, in whatever chunks, a `FramedRead<_, MessageCodec>` yields frames and errors only. -/
theorem c06_stream_total (buf : Bytes) (reads : List Read) : ∀ i ∈ run buf reads, ∀ s, i ≠ .panic s := by
  -- `case1` no reads left; `case2` pending; a chunk: `case3` `drain` wants more and reading goes on, `case4` it stopped
  -- on an error; end of stream: `case5` nothing left over, `case6` bytes left over (an error item is added), `case7`
  -- `drain` stopped on an error
  fun_induction run buf reads with
  | case1 => exact fun _ h => nomatch h
  | case2 buf rs ih => exact ih
  | case3 buf c rs r left h ih => exact List.forall_mem_append.2 ⟨drain_no_panic_item _, ih⟩
  | case6 buf rs r left h =>
    exact List.forall_mem_append.2 ⟨drain_no_panic_item _, List.forall_mem_singleton.2 fun _ => nofun⟩
  | case4 | case5 | case7 => exact drain_no_panic_item _

/-- `decode_message_batch` on any bytes. -/
theorem c06_batch_total (b : Bytes) (s : String) : decodeBatch b ≠ .panic s := decodeBatch_no_panic b s

/-- … and every message it returns is a piece of the input: nothing is sized from a declared count or length. -/
theorem c06_batch_bounded (n : Nat) (b : Bytes) (ms : List Bytes) (h : decodeBatchN n b = .ok ms) :
    (ms.map List.length).sum + 8 * ms.length ≤ b.length := decodeBatchN_bounded n b ms h

theorem c06_string_total (b : Bytes) (s : String) : stringCodec.decode b ≠ .panic s :=
  Res.ite_ne_panic nofun nofun

theorem c06_bytes_total (b : Bytes) (s : String) : bytesCodec.decode b ≠ .panic s := by
  simp [bytesCodec]

/-- `BincodeCodec::decode` for every schema, on any bytes. -/
theorem c06_bincode_total (t : Ty) (b : Bytes) (s : String) : (bincodeCodec t).decode b ≠ .panic s := by
  simp only [bincodeCodec]
  split
  · simp
  · simp
  · rename_i s' h; exact absurd h (dec_no_panic t b s')

/-- The subscriber's pipeline decompress → unbatch → decode (and the un-batched decompress → decode) on
    whatever a publisher sent, for a panic-free codec and a total decompressor. -/
theorem c06_pipeline_total_partial {α} (c : Codec α) (hc : ∀ b s, c.decode b ≠ .panic s)
    (z : Compressor) (hz : z.Total) (w : Bytes) (s : String) :
    recvOne c z w ≠ .panic s ∧ recvBatch c z w ≠ .panic s := by
  constructor
  · unfold recvOne
    split
    · exact hc _ s
    · simp
    · rename_i s' h; exact absurd h (hz w s')
  · unfold recvBatch
    split
    · split
      · exact mapRes_no_panic c.decode hc _ s
      · simp
      · rename_i s' h; exact absurd h (decodeBatch_no_panic _ s')
    · simp
    · rename_i s' h; exact absurd h (hz w s')

/-- With no decompression configured the pipeline is total outright. -/
theorem c06_pipeline_total_uncompressed {α} (c : Codec α) (hc : ∀ b s, c.decode b ≠ .panic s)
    (w : Bytes) (s : String) :
    recvOne c noCompression w ≠ .panic s ∧ recvBatch c noCompression w ≠ .panic s :=
  c06_pipeline_total_partial c hc noCompression (by intro b s; simp [noCompression]) w s

/-! ### the subscriber's `poll_next` itself: bounded work, bounded stack, no panic

`Client/Subscriber.lean` models one call of `Subscriber::poll_next` with the stack depth it reaches. Frames that
yield nothing (empty batches) make it go on to the next frame; done by self-call that costs one stack frame per
such frame — `c06_recursive_subscriber_stack_grows` — so a publisher could overflow the consumer's stack with a
run of 17-byte frames; done by a loop the depth is 1 whatever arrives. Which of the two the code does is read
from the source (`Gen.Client.subscriberPollNextRecurses`). -/

/-- one call of `poll_next` ends: it looks at each buffered frame at most once -/
theorem c06_subscriber_poll_terminates {α} (c : Codec α) (z : Compressor) (r : Bool) (fuel : Nat) (s : Sub)
    (h : s.script.length < fuel) : ∀ o s' d, Sub.pollNext c z r fuel s = (o, s', d) → o ≠ .outOfFuel := by
  suffices (Sub.pollNext c z r fuel s).1 ≠ .outOfFuel from fun o s' d hp => by rwa [hp] at this
  -- the arms of `Sub.pollNext` are numbered at `pollNext_spec` (Lemmas/Subscriber): `case1` is out of fuel, `case8` the
  -- self-call (a batch frame that decompresses and unbatches), every other arm returns at once
  fun_induction Sub.pollNext c z r fuel s with
  | case1 => cases h
  | case8 fuel s _ b q hq x _ ms _ ih =>
    -- the one branch that goes on: a frame has been taken off the script, a unit of fuel spent
    exact ih (by rw [hq] at h; exact Nat.lt_of_succ_lt_succ h)
  | _ => simp

/-- written as a loop, a call of `poll_next` never nests: the stack depth is 1 whatever frames arrive -/
theorem c06_subscriber_stack_bounded {α} (c : Codec α) (z : Compressor) (fuel : Nat) (s : Sub) :
    (Sub.pollNext c z false fuel s).2.2 ≤ 1 := by
  fun_induction Sub.pollNext c z false fuel s with
  | case8 _ _ _ _ _ _ _ _ _ _ ih => simpa using ih
  | _ => simp

/-- … and the code is written that way (regenerated from `subscriber.rs` on every run) -/
theorem c06_subscriber_does_not_recurse : Gen.Client.subscriberPollNextRecurses = false := by decide

/-- The defect this guards against, for the record: with the self-call, `n` empty batch frames followed by a message
    put `n + 1` activations on the stack in a single call — unbounded in what a publisher sends. -/
theorem c06_recursive_subscriber_stack_grows (n : Nat) (b : Bytes) :
    (Sub.pollNext bytesCodec noCompression true (n + 2)
      { batch := [], script := List.replicate n (.frame (.batch (beBytes 8 0))) ++ [.frame (.message b)] }).2.2 = n + 1 := by
  induction n with
  | zero => simp [Sub.pollNext]
  | succ k ih =>
    have hd : decodeBatch (beBytes 8 0) = .ok [] := by decide +kernel
    rw [List.replicate_succ, List.cons_append]
    unfold Sub.pollNext
    simp only [noCompression, hd, if_true]
    simp only [noCompression] at ih
    rw [ih]

/-- no item a subscriber yields is a panic, for a panic-free codec and a total decompressor -/
theorem c06_subscriber_total_partial {α} (c : Codec α) (hc : ∀ b s, c.decode b ≠ .panic s) (z : Compressor) (hz : z.Total)
    (r : Bool) (fuel : Nat) (s : Sub) (x : Res α) (h : (Sub.pollNext c z r fuel s).1 = .item x) : ∀ e, x ≠ .panic e := by
  revert h
  fun_induction Sub.pollNext c z r fuel s with
  | case2 => intro h; cases h; exact hc _
  | case6 => intro h; cases h; exact fun e => (c06_pipeline_total_partial c hc z hz _ e).1
  | case8 _ _ _ _ _ _ _ _ _ _ ih => exact ih
  | case10 _ _ _ _ _ _ _ _ e he => exact absurd he (decodeBatch_no_panic _ e)
  | case12 _ _ _ _ _ _ e he => exact absurd he (hz _ e)
  | _ => intro h; cases h <;> simp

/-- hypotheses are met: three empty batches then a message is four deep with the self-call, one deep with the loop -/
example : (Sub.pollNext bytesCodec noCompression true 9
    { script := [.frame (.batch (beBytes 8 0)), .frame (.batch (beBytes 8 0)), .frame (.batch (beBytes 8 0)), .frame (.message [97])] }).2.2 = 4 := by decide +kernel
example : (Sub.pollNext bytesCodec noCompression false 9
    { script := [.frame (.batch (beBytes 8 0)), .frame (.batch (beBytes 8 0)), .frame (.batch (beBytes 8 0)), .frame (.message [97])] }).2.2 = 1 := by decide +kernel

/-! Non-vacuity: the inputs that crashed the unrepaired decoders are errors. -/
example : decodeBatch [0, 0, 0] = .err "batch-truncated" := rfl
example : decodeBatch (beBytes 8 1 ++ beBytes 8 (2^64 - 1)) = .err "batch-truncated" := rfl
example : ((bincodeCodec .str).decode (leBytes 8 (2^40) ++ [97, 98, 99])).isOk = false := by decide +kernel

end Selium.Client

#print axioms Selium.Client.c06_frame_total
#print axioms Selium.Client.drain_no_panic_item
#print axioms Selium.Client.c06_stream_total
#print axioms Selium.Client.c06_batch_total
#print axioms Selium.Client.c06_batch_bounded
#print axioms Selium.Client.c06_string_total
#print axioms Selium.Client.c06_bytes_total
#print axioms Selium.Client.c06_bincode_total
#print axioms Selium.Client.c06_pipeline_total_partial
#print axioms Selium.Client.c06_pipeline_total_uncompressed
#print axioms Selium.Client.c06_subscriber_poll_terminates
#print axioms Selium.Client.c06_subscriber_stack_bounded
#print axioms Selium.Client.c06_subscriber_does_not_recurse
#print axioms Selium.Client.c06_recursive_subscriber_stack_grows
#print axioms Selium.Client.c06_subscriber_total_partial
