/-
C07, stated about the code itself: `Gen/TopicFn.lean` is printed by the translator from `protocol/src/topic_name.rs`
on every run (`TopicName::is_valid`, the rule `create` and the server apply to names that arrive on the wire). The
bridge is `Lemmas/TopicGen.lean` (generated definition = hand-written `Topic.isValid`, for all strings, with
`COMPONENT_REGEX.is_match` instantiated by the model's matcher over the regex parsed from the same file).
-/
import SeliumModel.Lemmas.TopicGen
import SeliumModel.Props.C07

namespace Selium.Topic
open Selium Selium.Gen

def genIsValid (ns tp : Str) : Bool := TopicFn.is_valid compMatch ns tp

theorem c07_generated_is_valid_is_the_model (ns tp : Str) : genIsValid ns tp = isValid ns tp := gen_is_valid_eq ns tp

/-- The rule the translated `is_valid` applies to a (namespace, topic) pair from the wire is the rule `try_from` applies
    to text: it holds exactly when the printed name parses, to that very pair. -/
theorem c07_generated_server_rule_is_the_parsers_rule (ns tp : Str) :
    genIsValid ns tp = true ↔ tryFrom (display ns tp) = .ok (ns, tp) := by
  rw [c07_generated_is_valid_is_the_model]
  exact c07_server_same_rule ns tp

/-- … spelled out: both components are 3 to 64 characters of the class, and the namespace does not start with the
    reserved word. -/
theorem c07_generated_is_valid_iff (ns tp : Str) :
    genIsValid ns tp = true ↔ comp ns = true ∧ comp tp = true ∧ Selium.Gen.Topic.reserved.isPrefixOf ns = false := by
  rw [c07_generated_server_rule_is_the_parsers_rule, c07_accept_iff]
  exact ⟨And.right, And.intro rfl⟩

/-! Non-vacuity: the generated definition computes (`/verif/topic` is accepted, a reserved namespace and a two-character
    topic are not). -/
example : genIsValid [118, 101, 114, 105, 102] [116, 111, 112, 105, 99] = true := by decide +kernel
example : genIsValid [115, 101, 108, 105, 117, 109, 120] [116, 111, 112, 105, 99] = false := by decide +kernel
example : genIsValid [118, 101, 114, 105, 102] [116, 111] = false := by decide +kernel

end Selium.Topic

#print axioms Selium.Topic.c07_generated_is_valid_is_the_model
#print axioms Selium.Topic.c07_generated_server_rule_is_the_parsers_rule
#print axioms Selium.Topic.c07_generated_is_valid_iff
