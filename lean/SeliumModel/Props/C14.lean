/-
C14 — Payload transforms are lossless: codecs and every compression algorithm/level.

Proved outright: StringCodec, BytesCodec, BincodeCodec (over the schema universe), the batch format, and the
composition used on the wire for ANY compressor that inverts itself. NOT proved: that flate2 / zstd / brotli /
lz4_flex invert themselves — that would need models of DEFLATE, zstd, brotli and LZ4; it enters as the
hypothesis `Compressor.Lossless` and is tested per algorithm x mode x level x payload class by the `codec`
suite (labelled testing in the evidence). Theorems that depend on it carry the suffix `_partial`.
-/
import SeliumModel.Lemmas.Bincode
import SeliumModel.Lemmas.Batch
import SeliumModel.Lemmas.Codecs
import SeliumModel.Gen.Compression

namespace Selium.Client
open Selium Selium.Bincode Selium.Wire

/-- StringCodec: decoding the encoding of any string returns it. -/
theorem c14_string_roundtrip (s : Bytes) (h : validUtf8 s = true) :
    ∃ b, stringCodec.encode s = .ok b ∧ stringCodec.decode b = .ok s :=
  ⟨s, rfl, if_pos h⟩

/-- StringCodec: bytes that are not valid UTF-8 are an error; and whenever it answers with a value, that
    value is exactly the input bytes read as (valid) UTF-8 — never a wrong value. -/
theorem c14_string_invalid_is_error (b : Bytes) (h : validUtf8 b = false) :
    stringCodec.decode b = .err "utf8" := if_neg (Bool.eq_false_iff.1 h)

theorem c14_string_never_wrong (b s : Bytes) (h : stringCodec.decode b = .ok s) :
    s = b ∧ validUtf8 b = true := by
  simp only [stringCodec] at h
  split at h
  · next hv => cases h; exact ⟨rfl, hv⟩
  · cases h

/-- BytesCodec is the identity both ways. -/
theorem c14_bytes_roundtrip (v : Bytes) :
    ∃ b, bytesCodec.encode v = .ok b ∧ bytesCodec.decode b = .ok v := ⟨v, rfl, rfl⟩

/-- BincodeCodec: for every schema and every value of it. -/
theorem c14_bincode_roundtrip (t : Ty) (v : Val) (h : hasTy v t = true) :
    ∃ b, (bincodeCodec t).encode v = .ok b ∧ (bincodeCodec t).decode b = .ok v := by
  refine ⟨enc v, rfl, ?_⟩
  simp only [bincodeCodec]
  rw [enc_dec_nil v t h]

theorem stringCodec_lossless : stringCodec.Lossless (fun s => validUtf8 s = true) :=
  fun s h => c14_string_roundtrip s h
theorem bytesCodec_lossless : bytesCodec.Lossless (fun _ => True) :=
  fun v _ => c14_bytes_roundtrip v
theorem bincodeCodec_lossless (t : Ty) : (bincodeCodec t).Lossless (fun v => hasTy v t = true) :=
  fun v h => c14_bincode_roundtrip t v h

/-- The un-batched wire composition: decode ∘ decompress ∘ compress ∘ encode = id, for any lossless codec
    and any compressor that inverts itself. -/
theorem c14_single_composition_partial {α} (c : Codec α) (good : α → Prop) (hc : c.Lossless good)
    (z : Compressor) (hz : z.Lossless) (a : α) (ha : good a) :
    ∃ w, sendOne c z a = .ok w ∧ recvOne c z w = .ok a := by
  obtain ⟨b, he, hd⟩ := hc a ha
  obtain ⟨w, hcz, hdz⟩ := hz b
  exact ⟨w, by simp [sendOne, he, hcz], by simp [recvOne, hdz, hd]⟩

/-- The batched wire composition: decode ∘ unbatch ∘ decompress ∘ compress ∘ batch ∘ encode = id, items in
    order. (Sizes below 2^64 are the range of `usize`.) -/
theorem c14_batch_composition_partial {α} (c : Codec α) (good : α → Prop) (hc : c.Lossless good)
    (z : Compressor) (hz : z.Lossless) (items : List α) (hi : ∀ a ∈ items, good a)
    (hn : items.length < 256 ^ 8)
    (hsz : ∀ bs, mapRes c.encode items = .ok bs → ∀ m ∈ bs, m.length < 256 ^ 8) :
    ∃ w, sendBatch c z items = .ok w ∧ recvBatch c z w = .ok items := by
  obtain ⟨bs, hes, hds, hl⟩ := mapRes_lossless c good hc items hi
  obtain ⟨w, hcz, hdz⟩ := hz (encodeBatch bs)
  refine ⟨w, by simp [sendBatch, hes, hcz], ?_⟩
  have hb := decodeBatch_encodeBatch bs (by rw [hl]; exact hn) (hsz bs hes)
  simp [recvBatch, hdz, hb, hds]

/-- Without compression the composition is lossless with no hypothesis about any library. -/
theorem c14_batch_composition_uncompressed {α} (c : Codec α) (good : α → Prop) (hc : c.Lossless good)
    (items : List α) (hi : ∀ a ∈ items, good a) (hn : items.length < 256 ^ 8)
    (hsz : ∀ bs, mapRes c.encode items = .ok bs → ∀ m ∈ bs, m.length < 256 ^ 8) :
    ∃ w, sendBatch c noCompression items = .ok w ∧ recvBatch c noCompression w = .ok items :=
  c14_batch_composition_partial c good hc noCompression noCompression_lossless items hi hn hsz

/-! ### which library halves selium pairs (extracted from `standard/src/compression/*` on every run) -/

open Selium.Gen.Compression in
/-- flate2 as trusted: per container format an encoder / decoder pair that invert each other when the encoder
    is finished and the decoder reads to the end (what `deflateEncoderFinished` / `deflateDecoderReadsAll` say
    the code does). Nothing is assumed about a decoder fed the *other* format. -/
structure Flate where
  enc : Format → Bytes → Bytes
  dec : Format → Bytes → Res Bytes
  inv : ∀ f b, dec f (enc f b) = .ok b

open Selium.Gen.Compression in
/-- `DeflateComp { library := lc }` on the sending side with `DeflateDecomp { library := ld }` on the receiving
    side, the format of each half being what the source's `match self.library` selects -/
def deflatePair (F : Flate) (lc ld : Library) : Compressor where
  compress b := .ok (F.enc (deflateCompFormat lc) b)
  decompress c := F.dec (deflateDecompFormat ld) c

open Selium.Gen.Compression in
/-- The two halves select the same container format for the same library, the named constructors of the two
    halves agree, every encoder is finished / flushed before its bytes are taken and every decoder reads the
    whole input (all facts regenerated from the source). -/
theorem c14_library_halves_paired :
    (∀ l, deflateCompFormat l = deflateDecompFormat l) ∧
    deflateCompCtor_gzip = deflateDecompCtor_gzip ∧ deflateCompCtor_zlib = deflateDecompCtor_zlib ∧
    deflateCompCtor_gzip ≠ deflateCompCtor_zlib ∧
    deflateEncoderFinished = true ∧ deflateDecoderReadsAll = true ∧
    zstdCompWhole = true ∧ zstdDecompWhole = true ∧ lz4CompWhole = true ∧ lz4DecompWhole = true ∧
    brotliCompWhole = true ∧ brotliDecompWhole = true := by
  refine ⟨fun l => by cases l <;> rfl, ?_⟩
  decide

open Selium.Gen.Compression in
/-- Hence selium's DEFLATE pair is lossless for either library given only flate2's own per-format inverse:
    the hypothesis `Compressor.Lossless` of the composition theorems is discharged for gzip and zlib up to the
    library. -/
theorem c14_deflate_lossless_partial (F : Flate) (l : Library) : (deflatePair F l l).Lossless := by
  intro b
  refine ⟨F.enc (deflateCompFormat l) b, rfl, ?_⟩
  show F.dec (deflateDecompFormat l) (F.enc (deflateCompFormat l) b) = .ok b
  rw [← c14_library_halves_paired.1 l]
  exact F.inv _ b

/-! Non-vacuity -/
example : validUtf8 [0xe6, 0x97, 0xa5, 0x41] = true := by decide +kernel
example : stringCodec.decode [0xc0, 0x80] = .err "utf8" := by decide +kernel
example : stringCodec.decode [0xed, 0xa0, 0x80] = .err "utf8" := by decide +kernel

end Selium.Client

#print axioms Selium.Client.c14_string_roundtrip
#print axioms Selium.Client.c14_string_invalid_is_error
#print axioms Selium.Client.c14_string_never_wrong
#print axioms Selium.Client.c14_bytes_roundtrip
#print axioms Selium.Client.c14_bincode_roundtrip
#print axioms Selium.Client.stringCodec_lossless
#print axioms Selium.Client.bytesCodec_lossless
#print axioms Selium.Client.bincodeCodec_lossless
#print axioms Selium.Client.c14_single_composition_partial
#print axioms Selium.Client.c14_batch_composition_partial
#print axioms Selium.Client.c14_batch_composition_uncompressed
#print axioms Selium.Client.c14_library_halves_paired
#print axioms Selium.Client.c14_deflate_lossless_partial
