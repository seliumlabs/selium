/-
C04 — End-to-end request/reply: each call gets its own reply, or a timely error.

Model: `Client/Requestor.lean` — the id counter and pending-request map shared by a requestor and its clones,
`request()` and the reply reader, against an adversarial stream of reply frames (any order, duplicates,
missing, late, foreign or malformed ids). Across separate requestor streams ids may collide, but the server
never delivers a reply to a stream other than the one named by its routing tag (`c02_reply_delivery`,
`c02_replies_none_lost_each_to_its_requestor`), so only same-stream confusion has to be excluded here.
-/
import SeliumModel.Lemmas.Requestor
import SeliumModel.Gen.Client

namespace Selium.Client
open Selium

/-- Every `request()` that returned Ok returned a reply that carried exactly that request's id — never the
    reply to another request — and a reply is handed to at most one call, a call gets at most one reply;
    whatever the order, duplication, loss or lateness of replies and however many clones share the stream. -/
theorem c04_own_reply (history : List RqEvent) :
    (∀ d ∈ (Rq.run history).delivered, ∃ c, (Rq.run history).calls[d.1]? = some c ∧ d.2.reqId = some c.id ∧
        c.state = .done d.2.payload) ∧
    ((Rq.run history).delivered.map (·.1)).Nodup :=
  ⟨(run_inv history).deliv, (run_inv history).once⟩

/-- A call whose timeout fired stays failed: a late reply to it is dropped and changes no call's outcome. -/
theorem c04_late_reply_dropped (s : Rq) (h : RqInv s) (r : Reply) (id ci : Nat) (c : Call)
    (hid : r.reqId = some id) (hp : s.pending.find? (·.1 = id) = some (id, ci)) (hc : s.calls[ci]? = some c)
    (hs : c.state ≠ .waiting) : (s.arrive r).calls = s.calls ∧ (s.arrive r).delivered = s.delivered := by
  simp only [Rq.arrive, hid, hp, hc, if_neg hs, and_self]

/-- No matching reply within the timeout ⇒ the call fails with a timeout and stays so. -/
theorem c04_timeout (s : Rq) (ci : Nat) (c : Call) (hc : s.calls[ci]? = some c) (hw : c.state = .waiting) :
    (s.timeout ci).calls[ci]? = some { c with state := .timedOut } := by
  simp only [Rq.timeout, hc, hw, if_true, setState_getElem?, Option.map_some]

/-- Timely error even when the request cannot be handed to the transport: the timer bounds the send as well
    (regenerated from `requestor.rs`), so a waiting call fails with a timeout whether or not its send completed. -/
theorem c04_timeout_covers_send : Gen.Client.requestTimeoutCoversSend = true := by decide

theorem c04_timeout_timely (sent : Nat → Bool) (s : Rq) (ci : Nat) (c : Call) (hc : s.calls[ci]? = some c)
    (hw : c.state = .waiting) :
    (s.timeoutIfArmed Gen.Client.requestTimeoutCoversSend sent ci).calls[ci]? = some { c with state := .timedOut } := by
  simp only [Rq.timeoutIfArmed, c04_timeout_covers_send, Bool.true_or, if_true]
  exact c04_timeout s ci c hc hw

/-- The defect this guards against, for the record: with a timer that starts only after the send, a call whose send
    never completes stays waiting for ever. -/
theorem c04_unarmed_timer_never_fires (s : Rq) (ci : Nat) : s.timeoutIfArmed false (fun _ => false) ci = s := by
  simp [Rq.timeoutIfArmed]

/-- regenerated from `protocol/src/request_id.rs`: the counter shared by a requestor and its clones wraps after 2^32 calls,
    which is the `U32` of the model (a narrower counter would hand the id of a call that is still waiting, or whose
    late reply is still under way, to a later call: its reply would then be returned to the wrong call) -/
theorem c04_request_id_counter_width : 2 ^ Gen.Client.requestIdBits = U32 := by decide

/-- regenerated from `requestor.rs`: everything a call can wait for without bound — the shared write half, the transport,
    the reply — is awaited inside the future that `timeout(self.request_timeout, …)` bounds; outside it a call awaits only the
    pending map's lock, held by anybody for one insert or one remove. This is what makes `timeoutIfArmed` of the model
    applicable to every call (`c04_timeout`): no admission control, reply channel or transport operation sits in front of
    the clock. -/
theorem c04_every_unbounded_wait_is_timed : Gen.Client.requestWaitsAreTimed = true := by decide

/-- Concurrent calls on one stream (any number of clones) get distinct ids as long as no more than 2^32 are
    made: the k-th call is given id k. -/
theorem c04_ids_distinct (n : Nat) (hn : n ≤ U32) :
    (Rq.run (List.replicate n .call)).calls.map (·.id) = List.range n ∧
    ((Rq.run (List.replicate n .call)).calls.map (·.id)).Nodup := by
  have key : (Rq.run (List.replicate n .call)).calls.map (·.id) = List.range n ∧
      (Rq.run (List.replicate n .call)).nextId = n % U32 := by
    induction n with
    | zero => exact ⟨rfl, rfl⟩
    | succ m ih =>
      obtain ⟨h1, h2⟩ := ih (Nat.le_of_succ_le hn)
      rw [Nat.mod_eq_of_lt hn] at h2
      rw [List.replicate_succ', Rq.run_concat, Rq.step, Rq.call, List.map_append, h1, h2, List.range_succ]
      exact ⟨rfl, rfl⟩
  exact ⟨key.1, key.1 ▸ List.nodup_range⟩

/-! `Client/Replier.lean` models `Replier::listen`. With the library replier on the other side the exchange is:
requestor writes `{"req_id": id}` → server overwrites / adds `cid` (`tagRequest`) → replier answers with the
request's own header map → server routes on `cid` and strips it (`routerSend`) → the requestor's reader parses
`req_id` (`replyOfFrame`) and completes the call (`Rq.arrive`). -/
open Selium.Sink Selium.Route

/-- `listen()` answers a prefix of what arrives, one reply per request, in order, each with the headers of the
    request it answers and the processed payload; if it returned `Ok(())` it answered everything. -/
theorem c04_replier_answers_in_order_with_request_headers {β} (process : β → Res β) (sendOk : Nat → Bool)
    (n : Nat) (items : List (RxItem β)) :
    ∃ k, k ≤ items.length ∧
      (listen process sendOk n items).1 = (items.take k).filterMap (answer process) ∧
      (∀ it ∈ items.take k, ∃ h p r, it = .msg h p ∧ process p = .ok r) ∧
      ((listen process sendOk n items).2 = .ended → k = items.length) := by
  fun_induction listen process sendOk n items with
  | case1 => exact ⟨0, Nat.le_refl _, rfl, nofun, fun _ => rfl⟩
  | case2 n h p rest r hp hs ih =>
    -- a request that is processed and whose reply is sent: `listen` goes on with the rest
    obtain ⟨k, hk, h1, h2, h3⟩ := ih
    refine ⟨k + 1, Nat.succ_le_succ hk, ?_, ?_, fun he => congrArg (· + 1) (h3 he)⟩
    · rw [List.take_succ_cons, List.filterMap_cons, show answer process (.msg h p) = some (h, r) by rw [answer, hp], h1]
    · intro it hit
      rcases List.mem_cons.1 hit with rfl | hit
      · exact ⟨h, p, r, rfl, hp⟩
      · exact h2 it hit
  | _ =>
    -- anything else: `listen` stops here having sent nothing more, and not with `Ok(())`
    exact ⟨0, Nat.zero_le _, rfl, fun _ h => absurd h List.not_mem_nil, ListenEnd.noConfusion⟩

/-- With requests only, a handler / codec pipeline that succeeds on each of them and a transport that accepts every
    reply, every request is answered, in order, with its own headers. -/
theorem c04_replier_answers_every_request {β} (process : β → Res β) (f : β → β) (hf : ∀ p, process p = .ok (f p))
    (n : Nat) (reqs : List (Option Hdr × β)) :
    listen process (fun _ => true) n (reqs.map fun q => .msg q.1 q.2) = (reqs.map fun q => (q.1, f q.2), .ended) := by
  induction reqs generalizing n with
  | nil => rfl
  | cons q qs ih => simp [listen, hf, ih (n + 1)]

/-- The routing tag survives the trip: whatever headers a requestor put on its request (a forged `cid` included),
    the reply that echoes the tagged request's headers is handed to exactly that requestor's sink, with the tag
    removed and the requestor's other headers and the replier's payload intact. -/
theorem c04_echoed_reply_reaches_its_requestor (cid : Nat) (hcid : cid < 18446744073709551616) (h : Option Hdr)
    (p r : Nat) (es : List (Child RFrame)) (c : Child RFrame) (hc : es.find? (·.id = cid) = some c)
    (hs : c.sendOk = true) :
    ∃ hd, tagRequest cid h p = .msg (some hd) p ∧
      (routerSend (.msg (some hd) r) es).1 = .delivered cid (stripCid hd r) ∧
      hd.remove CID = (h.getD []).remove CID := by
  refine ⟨(h.getD []).set CID (toString cid), rfl, ?_, ?_⟩
  · have hget : ((h.getD []).set CID (toString cid)).get CID = some (toString cid) := by
      simp [Hdr.set, Hdr.get]
    unfold routerSend
    simp only [hget, parseUsize_toString cid hcid, hc, hs, if_true]
  · simp [Hdr.set, Hdr.remove, List.filter_filter]

/-- The request id survives the trip: the reply to request `id` is recognised by the reader task as the reply to
    `id` (for every id the counter can produce). -/
theorem c04_request_id_roundtrip (id : Nat) (hid : id < U32) (cidv : String) (payload : Bytes) :
    replyOfFrame (some ((requestHeaders id).remove CID)) payload = { reqId := some id, payload := payload } ∧
    replyOfFrame (some (((requestHeaders id).set CID cidv).remove CID)) payload = { reqId := some id, payload := payload } := by
  have hne : (REQ_ID ≠ CID) := by decide
  have h1 : (requestHeaders id).remove CID = requestHeaders id := by
    simp [requestHeaders, Hdr.remove, hne]
  have h2 : ((requestHeaders id).set CID cidv).remove CID = requestHeaders id := by
    simp [requestHeaders, Hdr.set, Hdr.remove, hne]
  rw [h1, h2]; exact ⟨replyOfFrame_requestHeaders id hid payload, replyOfFrame_requestHeaders id hid payload⟩

/-- … and completes exactly the call that made the request: a call followed by the arrival of the echoed reply
    ends with that call holding the reply's payload. -/
theorem c04_honest_exchange_completes (s : Rq) (hid : s.nextId < U32) (payload : Bytes) :
    (s.call.arrive (replyOfFrame (some (requestHeaders s.nextId)) payload)).calls[s.calls.length]? =
      some { id := s.nextId, state := .done payload } := by
  rw [replyOfFrame_requestHeaders s.nextId hid payload]
  simp [Rq.arrive, Rq.call, setState_getElem?]

/-- hypotheses are satisfiable: requestor 3 sends request 7 with a forged tag; the echo comes back to sink 3 -/
example :
    (routerSend (.msg (some (Hdr.set [(CID, "9"), (REQ_ID, "7")] CID (toString 3))) 42)
      [{ id := 1 }, { id := 3 }]).1 = .delivered 3 (.msg (some [(REQ_ID, "7")]) 42) := by
  rfl

end Selium.Client

#print axioms Selium.Client.c04_own_reply
#print axioms Selium.Client.c04_late_reply_dropped
#print axioms Selium.Client.c04_timeout
#print axioms Selium.Client.c04_request_id_counter_width
#print axioms Selium.Client.c04_every_unbounded_wait_is_timed
#print axioms Selium.Client.c04_ids_distinct
#print axioms Selium.Client.c04_replier_answers_in_order_with_request_headers
#print axioms Selium.Client.c04_replier_answers_every_request
#print axioms Selium.Client.c04_echoed_reply_reaches_its_requestor
#print axioms Selium.Client.c04_request_id_roundtrip
#print axioms Selium.Client.c04_honest_exchange_completes
#print axioms Selium.Client.c04_timeout_covers_send
#print axioms Selium.Client.c04_timeout_timely
#print axioms Selium.Client.c04_unarmed_timer_never_fires
#print axioms Selium.Client.setState_getElem?
#print axioms Selium.Client.setState_length
#print axioms Selium.Client.filter_keys_nodup
#print axioms Selium.Client.rqInv_init
#print axioms Selium.Client.call_inv
#print axioms Selium.Client.timeout_inv
#print axioms Selium.Client.arrive_inv
#print axioms Selium.Client.run_inv
