/-
C10 — At most one replier per topic, with explicit rejection and re-binding.

`server : Option Replier` holds at most one bound replier by construction of the state; requests go only to
it (`partA` is the only block that hands a request over, to `s.server`). A replier that registers while one is
bound goes through the rejection path (`adoptSock` → `partB`): it is sent exactly the replier-already-bound
error and then closed, for every ready/pending/error script of its sink; that path touches nothing of the
bound replier or of the requestors. When the bound replier's stream ends it is unbound (`partD`), and the next
replier to register is bound (`adoptSock`).
-/
import SeliumModel.Lemmas.ReqRepRejection
import SeliumModel.Lemmas.ReqRepLife

namespace Selium.Route
open Selium.Sink

/-- A request is handed only to the replier that is bound at that moment. -/
theorem c10_requests_only_to_bound_replier (s : RR) :
    (partA s).state.handed = s.handed ∨ ∃ r f, s.server = some r ∧ (partA s).state.handed = s.handed ++ [(r.n, f)] := by
  fun_cases partA s
  case case3 f r hr _ _ _ => exact .inr ⟨r, f, hr, rfl⟩
  all_goals exact .inl rfl

/-- A replier that registers while another is bound is not bound; it is queued for rejection with nothing sent
    yet, and the bound replier stays bound. -/
theorem c10_late_replier_is_rejected (s : RR) (r : Replier) (sink : Child RFrame) (script : List (SAns RFrame))
    (q : List RSock) (h : s.server = some r) :
    (adoptSock s (.server sink script) q).server = some r ∧
    ∃ j, (adoptSock s (.server sink script) q).bufErr = some j ∧ j.toSend = true ∧ j.sink.got = [] := by
  simp only [adoptSock, h]
  exact ⟨trivial, _, rfl, rfl, rfl⟩

/-- For every history: every replier turned away was handed exactly the replier-already-bound error and
    nothing else (or nothing, if its own sink failed first); one whose rejection is in progress has been handed
    nothing before the error and exactly the error after. -/
theorem c10_rejected_told_exactly_that (history : List REvent) :
    (∀ j ∈ (rrExec history).rejected, j.sink.got = [] ∨ j.sink.got = [rejectionFrame]) ∧
    (∀ j, (rrExec history).bufErr = some j → j.sink.got = if j.toSend then [] else [rejectionFrame]) :=
  ⟨(rejInv.exec history).finished, (rejInv.exec history).current⟩

/-- The rejection path leaves the bound replier's traffic alone: server, requestor sinks and streams, requests
    handed and buffered, replies buffered and routed are all unchanged by it. -/
theorem c10_bound_replier_unaffected (s : RR) :
    (partB s).state.server = s.server ∧ (partB s).state.sinks = s.sinks ∧ (partB s).state.streams = s.streams ∧
    (partB s).state.handed = s.handed ∧ (partB s).state.bufReq = s.bufReq ∧ (partB s).state.bufRep = s.bufRep ∧
    (partB s).state.routed = s.routed ∧ (partB s).state.taken = s.taken := by
  -- together these fields are a view of the state that block B does not write
  simpa only [Prod.mk.injEq] using
    (Reads.view (fun t => (t.server, t.sinks, t.streams, t.handed, t.bufReq, t.bufRep, t.routed, t.taken)) s).partB
      (by intros; rfl) s rfl

/-- After the bound replier is gone, the next replier to register becomes the bound one. -/
theorem c10_rebind (s : RR) (sink : Child RFrame) (script : List (SAns RFrame)) (q : List RSock)
    (h : s.server = none) :
    ∃ r, (adoptSock s (.server sink script) q).server = some r ∧ r.n = s.nextServer ∧ r.stream = script ∧
      (adoptSock s (.server sink script) q).bufErr = s.bufErr := by
  refine ⟨{ n := s.nextServer, sink := { sink with id := s.nextServer, got := [], flushed := 0 }, stream := script }, ?_, rfl, rfl, ?_⟩
  · simp [adoptSock, h]
  · simp [adoptSock, h]

/-! Non-vacuity: three repliers race; the first is bound, the other two each get the error and are closed,
    also when the second one's sink is not ready at first. -/
def exRace : List REvent :=
  [.enqueue (.server { id := 0 } [.pending, .pending, .pending, .pending]), .enqueue (.server { id := 0, readyQ := [.pending] } [.pending]),
   .enqueue (.server { id := 0 } [.pending]), .poll 50 [] [], .poll 50 [] [], .poll 50 [] []]

example : ((rrExec exRace).rejected.map fun j => (j.n, j.sink.got)) = [(1, [rejectionFrame]), (2, [rejectionFrame])] ∧
    ((rrExec exRace).server.map (·.n)) = some 0 := by decide +kernel

/-- "the bound replier's traffic is unaffected", for every history: the bound replier is let go of only when its own
    stream has ended or its own sink has failed — not because a late replier registered, was turned away, or failed while
    being turned away, and not because of anything a requestor did (the only other sockets dropped on the replier side are
    the late repliers themselves, each after the rejection was sent or could not be sent) -/
theorem c10_replier_let_go_only_for_cause (history : List REvent) (n k : Nat)
    (h : REv.v n (.dropped k) ∈ (rrExec history).trace) : ∃ e ∈ (rrExec history).trace, causeOf n e :=
  (rrExec_lives history).1.cause_of_drop h rfl

end Selium.Route

#print axioms Selium.Route.c10_requests_only_to_bound_replier
#print axioms Selium.Route.c10_late_replier_is_rejected
#print axioms Selium.Route.c10_rejected_told_exactly_that
#print axioms Selium.Route.c10_bound_replier_unaffected
#print axioms Selium.Route.c10_rebind
#print axioms Selium.Route.c10_replier_let_go_only_for_cause
