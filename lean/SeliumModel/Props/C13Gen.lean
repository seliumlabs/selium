/-
C13, stated about the code itself: `Gen/BackoffFn.lean` is printed by the translator from
`client/src/keep_alive/backoff_strategy.rs` on every run (`saturating_mul`, `BackoffStrategyIter::next`), and the
schedule drawn from the *generated* `next` is the one the property prescribes. The bridge is
`Lemmas/BackoffGen.lean` (generated definitions = hand-written model, for every argument).
-/
import SeliumModel.Lemmas.BackoffGen
import SeliumModel.Props.C13

namespace Selium.Backoff
open Selium.Gen

/-- Draw at most `n` attempts from the generated `next`, starting with counter `cur`
    (what a `for attempt in strategy` loop does with the real iterator). -/
def genTake (c : Cfg) : Nat → Nat → List BackoffFn.NextAttempt
  | 0, _ => []
  | n + 1, cur =>
    match BackoffFn.next cur c.maxAttempts c.maxDuration c.step (toGenStrategy c.strategy) with
    | (none, _) => []
    | (some a, cur') => a :: genTake c n cur'

/-- Whatever is drawn from the generated iterator is what is drawn from the model. -/
theorem c13_generated_code_is_the_model (c : Cfg) (hatt : c.maxAttempts ≤ U32MAX) :
    ∀ n cur, 1 ≤ cur → genTake c n cur = (take c n cur).map toGenAttempt := by
  intro n
  induction n with
  | zero => intro cur _; rfl
  | succ n ih =>
    intro cur h1
    rw [genTake, take, gen_next_eq c cur h1 hatt]
    rcases Nat.lt_or_ge c.maxAttempts cur with h | h
    · rw [next_of_gt c cur h]; rfl
    · rw [next_of_le c cur h]
      exact congrArg _ (ih (cur + 1) (Nat.le_succ_of_le h1))

theorem gen_schedule_eq (c : Cfg) (hatt : c.maxAttempts ≤ U32MAX) :
    genTake c (c.maxAttempts + 1) 1 = (schedule c).map toGenAttempt :=
  c13_generated_code_is_the_model c hatt _ 1 (Nat.le_refl 1)

/-- The schedule of the translated code, in one equation (for every strategy, step, factor, attempt count
    and optional maximum within the ranges of the Rust types): attempt `i+1` carries number `i+1`, the configured
    `max_attempts`, and the saturated, clamped law. -/
theorem c13_generated_code_schedule (c : Cfg) (hstep : c.step ≤ DMAX) (hatt : c.maxAttempts ≤ U32MAX) :
    genTake c (c.maxAttempts + 1) 1 = (List.range c.maxAttempts).map (fun i =>
      ({ duration := specDelay c (i + 1), attempt_num := i + 1, max_attempts := c.maxAttempts }
        : BackoffFn.NextAttempt)) := by
  rw [gen_schedule_eq c hatt, c13_schedule c hstep hatt, List.map_map]
  rfl

/-- The translated iterator hands out exactly `max_attempts` items, whatever the strategy, step, factor and maximum
    (also where the delay saturates): the retry budget of C12 is the whole schedule. -/
theorem c13_generated_code_length (c : Cfg) (hatt : c.maxAttempts ≤ U32MAX) :
    (genTake c (c.maxAttempts + 1) 1).length = c.maxAttempts := by
  rw [gen_schedule_eq c hatt, List.length_map]
  exact c13_length c

/-- No delay handed out by the translated iterator exceeds the configured maximum. -/
theorem c13_generated_code_clamped (c : Cfg) (m : Nat) (hm : c.maxDuration = some m) (hatt : c.maxAttempts ≤ U32MAX) :
    ∀ a ∈ genTake c (c.maxAttempts + 1) 1, a.duration ≤ m := by
  rw [gen_schedule_eq c hatt, List.forall_mem_map]
  exact c13_clamped c m hm

/-- Nothing wraps in the translated iterator: every delay is a representable `Duration`. -/
theorem c13_generated_code_representable (c : Cfg) (hstep : c.step ≤ DMAX) (hatt : c.maxAttempts ≤ U32MAX) :
    ∀ a ∈ genTake c (c.maxAttempts + 1) 1, a.duration ≤ DMAX := by
  rw [gen_schedule_eq c hatt, List.forall_mem_map]
  exact c13_representable c hstep hatt

/-- The translated iterator is finite and stays exhausted: past `max_attempts` it yields nothing and leaves its
    counter alone. -/
theorem c13_generated_code_exhausted (c : Cfg) (cur : Nat) (h : c.maxAttempts < cur) :
    BackoffFn.next cur c.maxAttempts c.maxDuration c.step (toGenStrategy c.strategy) = (none, cur) := by
  unfold BackoffFn.next
  simp [h]

/-- The translated `saturating_mul` is the product saturated at `Duration::MAX`, for all arguments. -/
theorem c13_generated_saturating_mul (d m : Nat) : BackoffFn.saturating_mul d m = min (d * m) DMAX := by
  rw [gen_saturating_mul_eq, satMul_spec]

/-! Non-vacuity: the generated definitions compute (the configurations the unrepaired code panicked on). -/
example : (genTake { strategy := .exponential 2, step := 2 * NANOS, maxAttempts := 6,
                     maxDuration := some (8 * NANOS) } 7 1).map (·.duration)
    = [2 * NANOS, 4 * NANOS, 8 * NANOS, 8 * NANOS, 8 * NANOS, 8 * NANOS] := by decide +kernel
example : ((genTake { strategy := .exponential 2, step := NANOS, maxAttempts := 70,
                      maxDuration := none } 71 1).map (·.duration)).getLast? = some DMAX := by decide +kernel

end Selium.Backoff

#print axioms Selium.Backoff.gen_schedule_eq
#print axioms Selium.Backoff.c13_generated_code_is_the_model
#print axioms Selium.Backoff.c13_generated_code_schedule
#print axioms Selium.Backoff.c13_generated_code_length
#print axioms Selium.Backoff.c13_generated_code_clamped
#print axioms Selium.Backoff.c13_generated_code_representable
#print axioms Selium.Backoff.c13_generated_code_exhausted
#print axioms Selium.Backoff.c13_generated_saturating_mul
