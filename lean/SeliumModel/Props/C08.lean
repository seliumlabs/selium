/-
C08 — A failing, slow or departed peer is dropped without harming the others.

Pub/sub half (this file, first part): corollaries of the C01 invariant, which is proved for ALL scripts including
an error at every operation of every peer, plus: `FanoutMany` never panics or returns an error (its result type
in the model has no such case and the repaired `start_send` is total), only a peer that answered with an error
is removed, and a peer that never fails is never removed.

Request/reply half (from `c08_reqrep_always_returns` on): a poll always returns; a replier whose sink fails is unbound and
a requestor whose sink refuses a reply is evicted, the others untouched; a socket is let go of only for a cause of its
own, and nothing is asked of it afterwards.
-/
import SeliumModel.Lemmas.PubSub
import SeliumModel.Lemmas.PubSubPeers
import SeliumModel.Lemmas.ReqRepRequests
import SeliumModel.Lemmas.ReqRepReplies
import SeliumModel.Lemmas.ReqRepProgress
import SeliumModel.Lemmas.ReqRepLife

namespace Selium.Route
open Selium.Sink
variable {α : Type}

/-- `FanoutMany::{poll_ready, poll_flush, poll_close}`: every entry kept is an old entry (untouched, or advanced by
    an answer that was not an error); `start_send`: every entry kept is an old entry that accepted the item. -/
theorem c08_fanout_poll_keeps_only_old (ans : Child α → Ans) (step : Child α → Child α) (ev : Nat → Ans → Ev α)
    (sinks : List (Child α)) :
    ∀ c' ∈ (pollLoop ans step ev [] sinks).2.1, ∃ c ∈ sinks, c' = c ∨ (c' = step c ∧ ans c ≠ .err) :=
  fun c' h => ((pollLoop_scan ans step ev sinks).mem c' h).imp fun _ hc =>
    ⟨hc.1, hc.2.symm.imp (·.1) fun h => ⟨h.1, h.2.1⟩⟩

theorem c08_fanout_send_isolation (x : α) (sinks : List (Child α)) :
    (∀ c' ∈ (startSend x sinks).1, ∃ c ∈ sinks, c.sendOk = true ∧ c' = c.afterSend x) ∧
    (∀ c ∈ sinks, c.sendOk = true → c.afterSend x ∈ (startSend x sinks).1) :=
  ⟨startSend_mem x sinks, startSend_keeps x sinks⟩

/-- A subscriber that never fails stays subscribed through any poll, whichever other subscribers, publishers
    fail, at whichever operation and point in the message sequence … -/
theorem c08_healthy_subscriber_survives (fuel : Nat) (oracle : List Nat) (s : PS α) (id : Nat)
    (h : ∃ k ∈ s.sinks, k.id = id ∧ k.Healthy) :
    ∃ k ∈ (pollFuel fuel oracle s).2.1.sinks, k.id = id ∧ k.Healthy :=
  (pollFuel_reach fuel oracle s).elim fun _ hr => hr.present id h

/-- … and (C01 invariant, which does not depend on anybody being healthy) it keeps receiving every message
    exactly once in order: the invariant holds for the survivors after any poll from any good state. -/
theorem c08_survivors_unharmed (fuel : Nat) (oracle : List Nat) (s : PS α) (h : Inv s) :
    ∀ k ∈ (pollFuel fuel oracle s).2.1.sinks,
      k.got ++ (pollFuel fuel oracle s).2.1.buffered.toList = (pollFuel fuel oracle s).2.1.accepted.drop k.regAt :=
  fun k hk => ((pollFuel_inv fuel oracle s h).1 k hk).2

/-- Polling the pub/sub router never panics: every modelled operation is total and its outcome is one of
    Pending (three kinds), Ready or — excluded by `c09_pubsub_terminates` — fuel exhaustion. A publisher stream
    that yields an error or ends only changes `streams` (see `streamPart`): sinks and accepted items are
    untouched by it. -/
theorem c08_pubsub_outcomes (fuel : Nat) (oracle : List Nat) (s : PS α) :
    (pollFuel fuel oracle s).1 = .blockedOnSink ∨ (pollFuel fuel oracle s).1 = .idle ∨
    (pollFuel fuel oracle s).1 = .waitingStreams ∨ (pollFuel fuel oracle s).1 = .done ∨
    (pollFuel fuel oracle s).1 = .outOfFuel := by
  cases (pollFuel fuel oracle s).1 <;> simp

/-! Non-vacuity: three subscribers, the first fails in `start_send` (the case that made the unrepaired
    `FanoutMany` index out of bounds); the other two get the item. -/
example : ((startSend 5 [({ id := 0, sendQ := [false] } : Child Nat), { id := 1 }, { id := 2 }]).1.map
    fun c => (c.id, c.got)) = [(2, [5]), (1, [5])] := by decide +kernel

end Selium.Route


namespace Selium.Route
open Selium.Sink

/-- Polling the request/reply router never panics and always returns: from any state, for any frames and any
    ready/pending/error behaviour of any peer, with enough fuel for the available work the outcome is one of the
    five kinds of Pending or Ready. (The unrepaired router panicked on a failing replier sink and on
    non-message frames, and did not return at all with only one side connected.) -/
theorem c08_reqrep_always_returns (s : RR) : (rrPoll (rwork s + 1) s).1 ≠ .outOfFuel :=
  rrPoll_terminates (rwork s + 1) s (Nat.lt_succ_self _)

/-- A replier whose sink fails is simply unbound (so that another replier can bind): nothing of the requestors
    is touched and the pending request is kept for the next replier. -/
theorem c08_failed_replier_is_unbound (s : RR) (f : RFrame) (r : Replier) (hf : s.bufReq = some f)
    (hr : s.server = some r) (he : r.sink.readyAns = .err) :
    ∃ s', partA s = .next s' ∧ s'.server = none ∧ s'.bufReq = some f ∧ s'.sinks = s.sinks ∧ s'.streams = s.streams :=
  partA_unbinds_failed_replier s f r hf hr he

/-- Whatever some requestors' sinks and streams do (fail, stall, send garbage), every connected requestor has
    been handed exactly the replies addressed to it and no reply taken from the replier is lost: the C02
    invariant is preserved by every poll from every state satisfying it. -/
theorem c08_requestors_isolated (fuel : Nat) (s : RR) (h : RepInv s) : RepInv (rrPoll fuel s).2 :=
  repInv.poll fuel s h

/-- A requestor sink that refuses a reply evicts only that requestor. -/
theorem c08_failing_requestor_only_evicted (f : RFrame) (es : List (Child RFrame)) (cid : Nat) (g : RFrame)
    (h : (routerSend f es).1 = .refused cid g) : (routerSend f es).2.1 = es.filter (·.id ≠ cid) :=
  routerSend_refused f es cid g h

/-- Only the failing peer is removed, for every history of registrations, shutdown and polls, whatever every peer's
    sink and stream answer, in whatever order the maps are iterated: whenever the router lets go of a replier socket,
    that socket's own stream had ended, or its own sink had failed, or it was being turned away as a second replier
    (`causeOf`) — nothing a requestor does (failing, leaving, arriving, a reply that can no longer be routed) is among
    the causes … -/
theorem c08_replier_dropped_only_for_cause (history : List REvent) (n k : Nat)
    (h : REv.v n (.dropped k) ∈ (rrExec history).trace) : ∃ e ∈ (rrExec history).trace, causeOf n e :=
  (rrExec_lives history).1.cause_of_drop h rfl

/-- … and whenever it lets go of a requestor's sink, that sink itself had answered with an error (at readiness, at a
    flush, or to a reply handed to it): nothing the replier or another requestor does is among the causes. -/
theorem c08_requestor_dropped_only_when_its_own_sink_failed (history : List REvent) (k : Nat)
    (h : REv.c (.dropped k) ∈ (rrExec history).trace) : ∃ e ∈ (rrExec history).trace, causeOfC k e :=
  (rrExec_lives history).2.cause_of_drop h rfl

/-- "A failed replier is simply unbound": once the router has let go of a replier socket — it failed, it left, it was turned
    away — nothing in the rest of the child-call trace concerns that socket: no readiness, send, flush or close is asked of
    it, nothing is read from its stream, for every history and every behaviour of every peer. Nobody waits behind a peer
    that has failed (a close of it that would never complete is never started). -/
theorem c08_dropped_replier_is_never_called_again (history : List REvent) (pre post : List REv) (n k : Nat)
    (h : (rrExec history).trace = pre ++ REv.v n (.dropped k) :: post) : ∀ e ∈ post, ∀ x, e ≠ REv.v n x :=
  fun e he x hex => ((rrExec_lives history).1.of_dropped h rfl).2 e he (isDrop x) (hex ▸ vn_v n x)

/-- The same for the requestor side: once the `Router` has evicted a requestor's sink (it failed at readiness, at a flush,
    or refused a reply) nothing in the rest of the trace asks anything of that sink — no readiness, send, flush or close —
    for every history, whatever order the `HashMap` is iterated in (the second component of `Lives`: client ids are unique
    and below the next id, every sink held is unevicted; each `Router` operation visits an entry once:
    `Scan.stretch`). -/
theorem c08_evicted_requestor_sink_is_never_called_again (history : List REvent) (pre post : List REv) (k : Nat)
    (h : (rrExec history).trace = pre ++ REv.c (.dropped k) :: post) : ∀ e ∈ post, ∀ b, vc e ≠ some (k, b) :=
  ((rrExec_lives history).2.of_dropped h rfl).2

/-- … and the drop follows the failure at once: in block A a readiness error of the bound replier's sink is the event right
    before its `dropped` -/
example (s : RR) (f : RFrame) (r : Replier) (hf : s.bufReq = some f) (hr : s.server = some r) (he : r.sink.readyAns = .err) :
    (partA s).state.trace = s.trace ++ [.v r.n (.ready r.n .err), .v r.n (.dropped r.n)] := by
  unfold partA
  simp [hf, hr, he, unbind, log, Flow.state]

/-- drops do happen: a replier whose stream ends is let go, and so is a requestor whose sink fails at the flush -/
def exDrops : List REvent :=
  [.enqueue (.server { id := 0 } []), .enqueue (.client { id := 0, flushQ := [.err] } [.pending]), .poll 50 [] [], .poll 50 [] []]

example : ((rrExec exDrops).trace.any fun e => match e with | .v 0 (.dropped 0) => true | _ => false) = true ∧
    ((rrExec exDrops).trace.any fun e => match e with | .c (.dropped 0) => true | _ => false) = true := by decide +kernel

end Selium.Route

#print axioms Selium.Route.c08_dropped_replier_is_never_called_again
#print axioms Selium.Route.c08_evicted_requestor_sink_is_never_called_again
#print axioms Selium.Route.c08_replier_dropped_only_for_cause
#print axioms Selium.Route.c08_requestor_dropped_only_when_its_own_sink_failed
#print axioms Selium.Route.c08_fanout_poll_keeps_only_old
#print axioms Selium.Route.c08_fanout_send_isolation
#print axioms Selium.Route.c08_healthy_subscriber_survives
#print axioms Selium.Route.c08_survivors_unharmed
#print axioms Selium.Route.c08_pubsub_outcomes
#print axioms Selium.Route.c08_reqrep_always_returns
#print axioms Selium.Route.c08_failed_replier_is_unbound
#print axioms Selium.Route.c08_requestors_isolated
#print axioms Selium.Route.c08_failing_requestor_only_evicted
