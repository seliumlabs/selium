/-
C11 — Every stream open is answered truthfully; no frame sequence breaks the server.

Router half (this file, first part): no sequence of well-formed frames of any of the eight kinds — unexpected
kinds mid-stream from a requestor or a replier, requests that exceed the frame limit only once tagged (the
replier's sink then refuses them) — makes a router's `poll` panic, spin or stop serving: `poll` is a total
function of the state in the model, returns for every input (`c11_reqrep_total`, `c11_pubsub_total`), skips
frames of unexpected kinds and leaves every other exchange untouched.
Registration half: `Server/Registry.lean` (see second part) and the end-to-end `registry` suite with raw peers.
The second part also holds `c07_server_enforces_rule`, the part of C07 that speaks of names arriving on the wire: it is a
statement about `handle_stream`.
-/
import SeliumModel.Lemmas.PubSubProgress
import SeliumModel.Lemmas.ReqRepRequests
import SeliumModel.Lemmas.ReqRepProgress
import SeliumModel.Lemmas.Registry
import SeliumModel.Lemmas.ReqRepLife

namespace Selium.Route
open Selium.Sink

/-- request/reply router: any frames, any peers, any state — `poll` returns with a real outcome -/
theorem c11_reqrep_total (s : RR) : (rrPoll (rwork s + 1) s).1 ≠ .outOfFuel :=
  rrPoll_terminates (rwork s + 1) s (Nat.lt_succ_self _)

/-- pub/sub router likewise (it never inspects frames: every kind is forwarded as an opaque item) -/
theorem c11_pubsub_total {α : Type} (oracle : List Nat) (s : PS α) : (pollFuel (work s + 1) oracle s).1 ≠ .outOfFuel :=
  pollFuel_terminates (work s + 1) oracle s (Nat.lt_succ_self _)

/-- a frame of an unexpected kind from a requestor (Ok, Error, batch, registration …) is skipped -/
theorem c11_unexpected_request_frame_skipped (s : RR) (sid k : Nat) (es : List (StreamSt RFrame)) (evs : List (Ev RFrame))
    (h : smPoll (s.so.headD 0) s.streams = (.item sid (.other k), es, evs)) :
    ∃ s', partF s = .next s' ∧ s'.sinks = s.sinks ∧ s'.server = s.server ∧ s'.bufReq = s.bufReq ∧
      s'.bufRep = s.bufRep ∧ s'.taken = s.taken ∧ s'.streams = es := partF_skips_unexpected s sid k es evs h

/-- a frame of an unexpected kind from the replier is discarded by the `Router` sink without touching any
    requestor -/
theorem c11_unexpected_reply_frame_discarded (k : Nat) (es : List (Child RFrame)) :
    (routerSend (.other k) es).2.1 = es ∧ (routerSend (.other k) es).2.2 = [] := ⟨rfl, rfl⟩

/-- a request that fits the limit only before the routing tag is added is refused by the replier's sink: it is
    dropped, the replier stays bound, the router carries on -/
theorem c11_oversize_after_tag (s : RR) (f : RFrame) (r : Replier) (hf : s.bufReq = some f) (hr : s.server = some r)
    (he : r.sink.readyAns = .ready) (hs : r.sink.afterReady.sendOk = false) :
    ∃ s', partA s = .next s' ∧ s'.server.isSome ∧ s'.bufReq = none ∧ s'.lost = s.lost ++ [f] ∧ s'.handed = s.handed :=
  partA_refused_request_dropped s f r hf hr he hs

/-! Non-vacuity: a requestor that sends `Ok` then a request, a replier that sends `Ok` then the reply — the
    sequences that panicked the unrepaired router. -/
def exOdd : List REvent :=
  [.enqueue (.client { id := 0 } [.item (.other 1), .item (.msg none 7), .pending]),
   .enqueue (.server { id := 0 } [.item (.other 1), .item (.msg (some [("cid", "0")]) 8), .pending, .pending]),
   .poll 50 [] [], .poll 50 [] []]

example : (rrExec exOdd).handed = [(0, .msg (some [("cid", "0")]) 7)] ∧
    (rrExec exOdd).sinks.map (·.got) = [[.msg none 8]] := by decide +kernel

/-- "never accepted and then silently abandoned", router half: a requestor or replier socket the router has adopted is
    let go of only for a cause of its own — the requestor's sink failed; the replier's stream ended, its sink failed, or
    it was told that another replier is bound. What any other peer does costs nobody its place. -/
theorem c11_adopted_socket_not_abandoned (history : List REvent) :
    (∀ k, REv.c (.dropped k) ∈ (rrExec history).trace → ∃ e ∈ (rrExec history).trace, causeOfC k e) ∧
    (∀ n k, REv.v n (.dropped k) ∈ (rrExec history).trace → ∃ e ∈ (rrExec history).trace, causeOf n e) :=
  ⟨fun _ h => (rrExec_lives history).2.cause_of_drop h rfl, fun _ _ h => (rrExec_lives history).1.cause_of_drop h rfl⟩

end Selium.Route

namespace Selium.Server
open Selium Selium.Topic Selium.Gen.Server

/-- Every stream that is acknowledged with Ok is served in the role it asked for: its socket is handed to the
    router of that topic, which exists and has the pattern of that role. -/
theorem c11_ok_means_served (r : Registry) (f : Option First) (h : (handleStream r f).answer = .ok) :
    ∃ role name, f = some (.register role name) ∧ (handleStream r f).enqueued = some (name, role) ∧
      (handleStream r f).registry.lookup name = some role.pattern ∧ (handleStream r f).panicked = false := by
  revert h
  fun_cases handleStream r f
  case case4 role name _ hl => exact fun _ => ⟨role, name, rfl, rfl, lookup_append_self r name _ hl, rfl⟩
  case case5 role name _ hl => exact fun _ => ⟨role, name, rfl, rfl, hl, rfl⟩
  case case7 hc => exact absurd checks_pattern.1 hc
  all_goals exact nofun

/-- A registration that is not served is refused explicitly, with an error frame carrying a code: an invalid
    name with INVALID_TOPIC_NAME, a role of the other messaging pattern with TOPIC_PATTERN_MISMATCH; the
    handler never panics and nothing is enqueued. -/
theorem c11_refusal_has_code (r : Registry) (role : Role) (name : Name)
    (h : (handleStream r (some (.register role name))).answer ≠ .ok) :
    ((handleStream r (some (.register role name))).answer = .error invalidTopicName ∨
     (handleStream r (some (.register role name))).answer = .error (topicPatternMismatch.getD unknownError)) ∧
    (handleStream r (some (.register role name))).enqueued = none ∧
    (handleStream r (some (.register role name))).panicked = false ∧
    (handleStream r (some (.register role name))).registry = r := by
  revert h
  generalize hf : some (First.register role name) = f
  fun_cases handleStream r f <;> cases hf
  case case3 => exact fun _ => ⟨.inl rfl, rfl, rfl, rfl⟩
  case case4 | case5 => exact fun h => (h rfl).elim
  case case6 => exact fun _ => ⟨.inr rfl, rfl, rfl, rfl⟩
  case case7 hc _ _ _ => exact absurd checks_pattern.1 hc

/-- The server applies the topic-name rule of C07 to names arriving on the wire: INVALID_TOPIC_NAME exactly
    for the names `is_valid` rejects, and no topic is created for them. -/
theorem c07_server_enforces_rule (r : Registry) (role : Role) (name : Name) :
    ((handleStream r (some (.register role name))).answer = .error invalidTopicName ↔ isValid name.ns name.tp = false) ∨
    topicPatternMismatch.getD unknownError = invalidTopicName := by
  -- the two codes are regenerated from the source. Were they the same (the right disjunct), a valid name met with the
  -- other pattern (`case6`) would be answered INVALID_TOPIC_NAME as well: the equivalence holds when they differ
  refine (Decidable.em (topicPatternMismatch.getD unknownError = invalidTopicName)).elim .inr fun hcodes => .inl ?_
  generalize hf : some (First.register role name) = f
  have valid {b : Bool} (hv : ¬(!b) = true) : b ≠ false := fun h => hv (by rw [h]; rfl)
  fun_cases handleStream r f <;> cases hf
  case case3 hv => exact ⟨fun _ => by simpa using hv, fun _ => rfl⟩
  case case4 hv _ | case5 hv _ | case7 hv _ => exact ⟨nofun, fun h => absurd h (valid hv)⟩
  case case6 hv _ => exact ⟨fun h => absurd (Answer.error.inj h) hcodes, fun h => absurd h (valid hv)⟩

/-- Two different names never share a router: handling a stream for one name leaves every other name's entry
    (its pattern, hence its router and channel) untouched, and a socket is only ever enqueued to the channel of
    the name in its own registration frame. -/
theorem c11_registry_isolation (r : Registry) (f : Option First) (other : Name)
    (h : ∀ role, f ≠ some (.register role other)) :
    (handleStream r f).registry.lookup other = r.lookup other ∧
    ∀ role, (handleStream r f).enqueued ≠ some (other, role) := handleStream_other r f other h

/-- A first frame that is not a registration asks for no role: the stream is closed without Ok (the client
    library reports STREAM_CLOSED_PREMATURELY) and nothing changes. -/
theorem c11_non_registration_closed (r : Registry) :
    (handleStream r (some .other)).answer = .closed ∧ (handleStream r (some .other)).registry = r ∧
    (handleStream r (some .other)).enqueued = none := ⟨rfl, rfl, rfl⟩

end Selium.Server

#print axioms Selium.Route.c11_reqrep_total
#print axioms Selium.Route.c11_pubsub_total
#print axioms Selium.Route.c11_unexpected_request_frame_skipped
#print axioms Selium.Route.c11_unexpected_reply_frame_discarded
#print axioms Selium.Route.c11_oversize_after_tag
#print axioms Selium.Route.c11_adopted_socket_not_abandoned
#print axioms Selium.Server.checks_pattern
#print axioms Selium.Server.c11_ok_means_served
#print axioms Selium.Server.c11_refusal_has_code
#print axioms Selium.Server.c07_server_enforces_rule
#print axioms Selium.Server.c11_registry_isolation
#print axioms Selium.Server.c11_non_registration_closed
