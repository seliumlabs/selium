/-
C07 — Topic names: grammar, reserved namespace, server-side enforcement, isolation.

Model `Topic/Name.lean`; the regex data (separators, bounds, the `[\w-]` class as the regex crate's own parser
resolves it, the reserved word, the slicing form used by `try_from`) is regenerated from the source into
`Gen/Topic.lean`. "Letters, digits, '_' and '-'" is read as the class the code uses: the regex crate's Unicode `\w`
plus '-'; the theorems do not depend on which class it is, only on what `Lemmas/Topic.lean` states as obligations on
it: '/' is not in it (`sep_not_in_ns`), and client regex and server regex agree (`same_rule`, `sep_eq`; in
`topicCaptures_iff` that agreement is checked by unfolding the regenerated constants, not by rewriting with `same_rule`).
The isolation clause (two names never share traffic) is `c07_names_are_distinct_keys` here plus the registry
theorems of C11/C17 (`Server/Registry.lean`), where topics are keyed by the (namespace, topic) pair.
-/
import SeliumModel.Lemmas.Topic
import SeliumModel.Lemmas.System

namespace Selium.Topic
open Selium Selium.Gen.Topic

/-- A string is accepted exactly when it has the form /namespace/topic with both parts 3 to 64 characters
    of the class and the namespace does not begin with the reserved word. -/
theorem c07_accept_iff (s ns tp : Str) :
    tryFrom s = .ok (ns, tp) ↔
      s = display ns tp ∧ comp ns = true ∧ comp tp = true ∧ reserved.isPrefixOf ns = false := by
  constructor
  · intro h
    obtain ⟨rfl, hn, ht⟩ := (topicCaptures_iff _ _ _).1 (tryFrom_captures h)
    rw [tryFrom_display (tryFrom_captures h)] at h
    refine ⟨rfl, hn, ht, ?_⟩
    cases hp : reserved.isPrefixOf ns with
    | false => rfl
    | true => rw [hp] at h; cases h
  · rintro ⟨rfl, hn, ht, hr⟩
    rw [tryFrom_display ((topicCaptures_iff _ _ _).2 ⟨rfl, hn, ht⟩), hr]; rfl

/-- Every other string is rejected with an error, never a panic. -/
theorem c07_total (s : Str) (site : String) : tryFrom s ≠ .panic site := by
  -- the arms are numbered at `tryFrom_captures` (Lemmas/Topic): `case7` is the panic, `case3`–`case6` return what the
  -- regex finds
  fun_cases tryFrom s with
  | case7 _ _ _ hc => exact absurd checked_slice hc
  | case3 _ _ _ _ _ hcap | case4 _ _ _ _ hcap | case5 _ _ _ _ _ hcap | case6 _ _ _ _ hcap => rw [hcap]; exact nofun
  | _ => exact nofun

/-- An accepted name prints back to the same string … -/
theorem c07_display_of_parse (s ns tp : Str) (h : tryFrom s = .ok (ns, tp)) : display ns tp = s :=
  ((c07_accept_iff s ns tp).mp h).1.symm

/-- … and a valid name, printed, parses to itself. -/
theorem c07_parse_of_display (ns tp : Str) (h : isValid ns tp = true) :
    tryFrom (display ns tp) = .ok (ns, tp) := by
  apply (c07_accept_iff _ _ _).mpr
  simp only [isValid, Bool.not_eq_true', Bool.or_eq_false_iff, Bool.not_eq_false'] at h
  exact ⟨rfl, h.1.2, h.2, h.1.1⟩

/-- The server applies the same rule to names arriving on the wire: `is_valid` holds exactly for the
    (namespace, topic) pairs whose printed form the client-side parser accepts as that pair. -/
theorem c07_server_same_rule (ns tp : Str) :
    isValid ns tp = true ↔ tryFrom (display ns tp) = .ok (ns, tp) := by
  constructor
  · exact c07_parse_of_display ns tp
  · intro h
    obtain ⟨_, hn, ht, hr⟩ := (c07_accept_iff _ _ _).mp h
    simp only [comp] at hn ht
    simp [isValid, compMatch, hn, ht, hr]

/-- `create` is `is_valid`. -/
theorem c07_create (ns tp : Str) : create ns tp = if isValid ns tp then .ok (ns, tp) else .err "parse" := rfl

/-- Two different valid names have different printed forms: a name identifies one (namespace, topic) key. -/
theorem c07_names_are_distinct_keys (ns tp ns' tp' : Str) (h : isValid ns tp = true) (h' : isValid ns' tp' = true)
    (heq : display ns tp = display ns' tp') : ns = ns' ∧ tp = tp' := by
  have a := c07_parse_of_display ns tp h
  have b := c07_parse_of_display ns' tp' h'
  rw [heq, b] at a
  simp only [Res.ok.injEq, Prod.mk.injEq] at a
  exact ⟨a.1.symm, a.2.symm⟩

/-! Non-vacuity: concrete accepted / rejected strings, including the one the unrepaired parser panicked on. -/
-- "/abc/d-_9"
example : tryFrom [47, 97, 98, 99, 47, 100, 45, 95, 57] = .ok ([97, 98, 99], [100, 45, 95, 57]) := by decide +kernel
-- "é/abc/def"
example : tryFrom [233, 47, 97, 98, 99, 47, 100, 101, 102] = .err "parse" := by decide +kernel
-- "/selium/topic"
example : tryFrom [47, 115, 101, 108, 105, 117, 109, 47, 116, 111, 112, 105, 99] = .err "reserved" := by decide +kernel
-- "/ab/def": too short
example : tryFrom [47, 97, 98, 47, 100, 101, 102] = .err "parse" := by decide +kernel

end Selium.Topic

/-! Whole-server model: `Server/System.lean`. -/
namespace Selium.Server
open Selium.Route Selium.Sink

/-- nothing a peer does under name `a` — opening streams in any role, with any scripted behaviour — and no poll of
    `a`'s routers mentions another name `b` … -/
theorem c07_other_name_not_mentioned (a b : Name) (h : a ≠ b) (role : Role) (sink : Child RFrame)
    (stream : List (SAns RFrame)) (fuel : Nat) (o so ko : List Nat) :
    mentions b (.openStream (some (.register role a)) sink stream) = false ∧
    mentions b (.pollPubsub a fuel o) = false ∧ mentions b (.pollReqrep a fuel so ko) = false := by
  simp [mentions, h]

/-- … and what is not mentioned has no effect: for every history of the whole server and every name `b`, the
    registry entry of `b` and the complete state of `b`'s pub/sub and request/reply routers (every frame every peer
    of `b` was handed) are what they would be had the events of all other names never happened. Two different
    names never share a router, a channel, or a single frame. -/
theorem c07_different_names_never_share_traffic (history : List SEvent) (b : Name) :
    (sysExec history).registry.lookup b = (sysExec (history.filter (mentions b))).registry.lookup b ∧
    (sysExec history).ps b = (sysExec (history.filter (mentions b))).ps b ∧
    (sysExec history).rr b = (sysExec (history.filter (mentions b))).rr b :=
  sys_topic_independent b history

end Selium.Server

#print axioms Selium.Topic.c07_accept_iff
#print axioms Selium.Topic.c07_total
#print axioms Selium.Topic.c07_display_of_parse
#print axioms Selium.Topic.c07_parse_of_display
#print axioms Selium.Topic.c07_server_same_rule
#print axioms Selium.Topic.c07_create
#print axioms Selium.Topic.c07_names_are_distinct_keys
#print axioms Selium.Server.c07_other_name_not_mentioned
#print axioms Selium.Server.c07_different_names_never_share_traffic
