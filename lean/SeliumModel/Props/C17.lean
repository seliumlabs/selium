/-
C17 — A stalled topic cannot block registration or traffic on other topics.

The mechanism: `handle_stream` takes the global `topics` lock only to look the topic up (or create it) and to
clone its sender; it waits for room in the topic's channel after releasing the lock. The translator reads from
the source whether an awaited `send` lies inside the lock guard's scope (`Gen.Server.lockHeldAcrossSend`);
the obligation `lock_released_before_send` fails to compile if it does. Over the transition system of
`Server/Registry.lean` (any number of registration tasks, any channel occupancies):
the task holding the lock is never waiting, and a registration for a topic whose channel has room completes in
four of its own steps whatever the state of every other topic — in particular with another topic's channel
over-full because its router is blocked on a subscriber that does not read.
That a router may stop draining its channel while blocked on a subscriber is C01/C09's `blockedOnSink`; the
stall itself (QUIC flow control) is exhibited by the `registry` suite's `stall` case, not proved.
-/
import SeliumModel.Server.Registry

namespace Selium.Server
open Selium.Gen.Server

/-- an obligation on a fact regenerated from the source, as are the next two: in `handle_stream` no awaited `send` lies in the
    scope of the lock guard -/
theorem lock_released_before_send : lockHeldAcrossSend = false := by decide

/-- regenerated from `handle_stream`: its answers are written with `send` (feed + flush) by the handler itself -/
theorem ack_flushed_by_handler : ackFlushedByHandler = true := by decide

/-- every stream of a connection is handled by a task of its own (regenerated from `handle_connection`) -/
theorem streams_in_own_tasks : streamsHandledInOwnTasks = true := by decide

theorem setPc_getElem? (ts : List Task) (i j : Nat) (pc : PC) :
    (setPc ts i pc)[j]? = (ts[j]?).map fun t => if j = i then { t with pc := pc } else t := by
  rw [setPc, List.getElem?_mapIdx]

theorem setPc_getElem?_self {ts : List Task} {i : Nat} {t : Task} (ht : ts[i]? = some t) (pc : PC) :
    (setPc ts i pc)[i]? = some { t with pc := pc } := by
  rw [setPc_getElem?, ht]; exact congrArg some (if_pos rfl)

def pcAt (s : Sys) (j : Nat) : Option PC := (s.tasks[j]?).map (·.pc)

theorem pcAt_of {s : Sys} {i : Nat} {t : Task} (ht : s.tasks[i]? = some t) : pcAt s i = some t.pc := by
  rw [pcAt, ht]; rfl

theorem pcAt_setPc (s : Sys) (i : Nat) (t : Task) (ht : s.tasks[i]? = some t) (pc : PC) (lock : Option Nat) (occ : Nat → Nat) (j : Nat) :
    pcAt { s with tasks := setPc s.tasks i pc, lock := lock, occ := occ } j = if j = i then some pc else pcAt s j := by
  unfold pcAt
  rw [setPc_getElem?, Option.map_map]
  split
  · rename_i e; rw [e, ht]; rfl
  · rfl

theorem step_at (s : Sys) (i : Nat) (t : Task) (ht : s.tasks[i]? = some t) :
    step s i =
      match t.pc with
      | .wantLock => { s with tasks := setPc s.tasks i .inLock, lock := some i }
      | .inLock => { s with tasks := setPc s.tasks i .answer, lock := none }
      | .answer => { s with tasks := setPc s.tasks i .enqueue }
      | .enqueue => { s with tasks := setPc s.tasks i .done, occ := fun k => if k = t.topic then s.occ k + 1 else s.occ k }
      | .done => s := by
  unfold step
  simp only [ht, lock_released_before_send, Bool.false_eq_true, if_false]
  cases t.pc <;> rfl

theorem enabled_at (s : Sys) (i : Nat) (t : Task) (ht : s.tasks[i]? = some t) :
    enabled s i =
      match t.pc with
      | .wantLock => s.lock.isNone
      | .enqueue => decide (s.occ t.topic < s.cap)
      | .done => false
      | .answer | .inLock => true := by
  unfold enabled
  simp only [ht, ack_flushed_by_handler, Bool.true_or]
  cases t.pc <;> rfl

/-- the lock is held exactly by a task that is inside the critical section: so it is initially, and every step keeps it so
    (`lockInv_init`, `step_lockInv`) -/
def LockInv (s : Sys) : Prop :=
  (∀ i, s.lock = some i → ∃ t, s.tasks[i]? = some t ∧ t.pc = .inLock) ∧
  (∀ i t, s.tasks[i]? = some t → t.pc = .inLock → s.lock = some i)

theorem lockInv_iff (s : Sys) : LockInv s ↔ ∀ j, s.lock = some j ↔ pcAt s j = some .inLock := by
  simp only [LockInv, pcAt, Option.map_eq_some_iff]
  exact ⟨fun h j => ⟨h.1 j, fun h' => h'.elim fun t ht => h.2 j t ht.1 ht.2⟩,
    fun h => ⟨fun j => (h j).mp, fun j t ht hp => (h j).mpr ⟨t, ht, hp⟩⟩⟩

theorem lockInv_move {s : Sys} {i : Nat} {t : Task} (h : LockInv s) (ht : s.tasks[i]? = some t) (pc : PC) (lock : Option Nat)
    (occ : Nat → Nat) (hi : lock = some i ↔ pc = .inLock) (ho : ∀ j, j ≠ i → (lock = some j ↔ s.lock = some j)) :
    LockInv { s with tasks := setPc s.tasks i pc, lock := lock, occ := occ } := by
  rw [lockInv_iff] at h ⊢
  intro j
  rw [pcAt_setPc s i t ht]
  by_cases e : j = i
  · rw [if_pos e, e]; exact hi.trans ⟨congrArg some, Option.some.inj⟩
  · rw [if_neg e]; exact (ho j e).trans (h j)

theorem lockInv_init (tasks : List Task) (occ : Nat → Nat) (cap : Nat) (h : ∀ t ∈ tasks, t.pc = .wantLock) :
    LockInv { tasks := tasks, lock := none, occ := occ, cap := cap } :=
  ⟨nofun, fun i t ht hp => by rw [h t (List.mem_of_getElem? ht)] at hp; cases hp⟩

theorem step_lockInv (s : Sys) (i : Nat) (h : LockInv s) (he : enabled s i = true) : LockInv (step s i) := by
  cases ht : s.tasks[i]? with
  | none => rw [enabled, ht] at he; cases he
  | some t =>
    have hi := (lockInv_iff s).mp h i
    rw [pcAt_of ht] at hi
    rw [enabled_at s i t ht] at he
    rw [step_at s i t ht]
    cases hpc : t.pc with
    | wantLock =>
      -- the lock was free, so nobody else is in the critical section
      rw [hpc] at he
      have hfree : s.lock = none := Option.isNone_iff_eq_none.mp he
      exact lockInv_move h ht .inLock (some i) s.occ ⟨fun _ => rfl, fun _ => rfl⟩
        fun j ne => ⟨fun e => absurd (Option.some.inj e).symm ne, fun e => by rw [hfree] at e; cases e⟩
    | inLock =>
      -- `i` held the lock, so nobody else is in the critical section
      have hl : s.lock = some i := hi.mpr (by rw [hpc])
      exact lockInv_move h ht .answer none s.occ ⟨nofun, nofun⟩
        fun j ne => ⟨nofun, fun e => absurd (Option.some.inj (hl.symm.trans e)) (Ne.symm ne)⟩
    | answer | enqueue =>
      -- `i` was not in the critical section and is not now
      rw [hpc] at hi
      exact lockInv_move h ht _ s.lock _ ⟨fun e => (nomatch hi.mp e), nofun⟩ fun _ _ => Iff.rfl
    | done => rw [hpc] at he; cases he

/-- The task holding the global lock is never waiting on anything: its next step is enabled, whatever the
    occupancy of any topic's channel. (With the unrepaired code the holder could sit in `enqueue` on a full
    channel, and every other registration waited for the lock.) -/
theorem c17_lock_holder_never_blocked (s : Sys) (h : LockInv s) (i : Nat) (hl : s.lock = some i) :
    enabled s i = true := by
  obtain ⟨t, ht, hp⟩ := h.1 i hl
  rw [enabled_at s i t ht, hp]

/-- A registration's answer waits for nobody: once the task is about to answer it can do so whoever holds the lock and
    however full its topic's channel is (the router of a stalled topic never gets to flush anything). -/
theorem c17_answer_waits_for_nobody (s : Sys) (i : Nat) (t : Task) (ht : s.tasks[i]? = some t) (hpc : t.pc = .answer) :
    enabled s i = true := by rw [enabled_at s i t ht, hpc]

/-- A registration for a topic whose channel has room runs to completion in five of its own steps once the
    lock is free — independently of the occupancy of every other topic's channel. -/
theorem c17_other_topic_progress (s : Sys) (i : Nat) (t : Task) (ht : s.tasks[i]? = some t)
    (hpc : t.pc = .wantLock) (hfree : s.lock = none) (hroom : s.occ t.topic < s.cap) :
    ((runTask s i 5).tasks[i]?).map (·.pc) = some .done := by
  -- the four steps the task takes; each is enabled and moves only task `i`
  have e1 : enabled s i = true := by rw [enabled_at s i t ht, hpc, hfree]; rfl
  have h1 := step_at s i t ht
  rw [hpc] at h1
  generalize hs1 : step s i = s1 at h1
  have t1 : s1.tasks[i]? = some { t with pc := .inLock } := by rw [h1]; exact setPc_getElem?_self ht _
  have e2 : enabled s1 i = true := by rw [enabled_at s1 i _ t1]
  have h2 := step_at s1 i _ t1
  generalize hs2 : step s1 i = s2 at h2
  have t2 : s2.tasks[i]? = some { t with pc := .answer } := by rw [h2]; exact setPc_getElem?_self t1 _
  have e3 : enabled s2 i = true := c17_answer_waits_for_nobody s2 i _ t2 rfl
  have h3 := step_at s2 i _ t2
  generalize hs3 : step s2 i = s3 at h3
  have t3 : s3.tasks[i]? = some { t with pc := .enqueue } := by rw [h3]; exact setPc_getElem?_self t2 _
  -- nothing so far has touched a channel
  have e4 : enabled s3 i = true := by
    rw [enabled_at s3 i _ t3, h3, h2, h1]; exact decide_eq_true hroom
  have h4 := step_at s3 i _ t3
  generalize hs4 : step s3 i = s4 at h4
  have t4 : s4.tasks[i]? = some { t with pc := .done } := by rw [h4]; exact setPc_getElem?_self t3 _
  -- the fifth round of `runTask` finds the task done: it is not enabled, and the run stops
  have e5 : enabled s4 i = false := by rw [enabled_at s4 i _ t4]
  simp only [runTask, e1, hs1, e2, hs2, e3, hs3, e4, hs4, e5, if_true, Bool.false_eq_true, if_false, t4]
  rfl

/-- A peer that has itself queued up for a stalled topic can still open streams: whatever state the registrations of
    the streams it opened earlier are in (waiting for the lock, waiting on a full channel), the connection's accept loop
    takes its next stream. -/
theorem c17_connection_keeps_accepting (s : Sys) (c : Conn) (h : c.accepted < c.streams.length) :
    canAccept streamsHandledInOwnTasks s c = true := by
  rw [canAccept, streams_in_own_tasks, Bool.true_or, Bool.and_true]
  exact decide_eq_true h

/-- … and a client that is new to the server is accepted however long a topic has been stalled: between two `accept()`s the
    endpoint's loop awaits nothing but the hand-over of the connection to a task of its own (and the shutdown) — regenerated
    from `Server::listen` / `Server::connect`; nothing there asks a router for anything. -/
theorem c17_endpoint_keeps_accepting : endpointLoopAwaitsNothingElse = true := by decide

/-- The defect this guards against, for the record: with `handle_stream` awaited inline, a connection whose last
    registration waits on the stalled topic's full channel accepts nothing more. -/
theorem c17_inline_registration_blocks_the_connection :
    canAccept false
      { tasks := [⟨0, .enqueue⟩, ⟨1, .wantLock⟩], lock := none, occ := fun k => if k = 0 then 101 else 0, cap := 101 }
      { streams := [0, 1], accepted := 1 } = false := by
  decide

/-! Non-vacuity: topic 0's channel is over-full (its router is stalled) and three registrations for it are
    queued up; a registration for topic 1 still completes. -/
def exSys : Sys :=
  { tasks := [⟨0, .wantLock⟩, ⟨0, .wantLock⟩, ⟨0, .wantLock⟩, ⟨1, .wantLock⟩], lock := none,
    occ := fun k => if k = 0 then 101 else 0, cap := 101 }

example : ((runTask (runTask (runTask exSys 0 5) 1 5) 3 5).tasks.map (·.pc)) = [.enqueue, .enqueue, .wantLock, .done] := by
  decide +kernel

end Selium.Server

#print axioms Selium.Server.pcAt_of
#print axioms Selium.Server.lockInv_iff
#print axioms Selium.Server.enabled_at
#print axioms Selium.Server.pcAt_setPc
#print axioms Selium.Server.setPc_getElem?_self
#print axioms Selium.Server.lock_released_before_send
#print axioms Selium.Server.setPc_getElem?
#print axioms Selium.Server.lockInv_move
#print axioms Selium.Server.step_lockInv
#print axioms Selium.Server.c17_lock_holder_never_blocked
#print axioms Selium.Server.step_at
#print axioms Selium.Server.ack_flushed_by_handler
#print axioms Selium.Server.c17_answer_waits_for_nobody
#print axioms Selium.Server.c17_other_topic_progress
#print axioms Selium.Server.lockInv_init
#print axioms Selium.Server.streams_in_own_tasks
#print axioms Selium.Server.c17_connection_keeps_accepting
#print axioms Selium.Server.c17_endpoint_keeps_accepting
#print axioms Selium.Server.c17_inline_registration_blocks_the_connection
