/-
C16 — Shutdown: every topic router terminates after flushing what it accepted.

Pub/sub half. Once the registration channel is closed, a poll from ANY state (idle, mid-delivery with an item
buffered, sockets still queued, only publishers or only subscribers connected) either finishes or is waiting
for a subscriber sink that answered Pending (which holds the waker); it never goes back to waiting for
publishers. If the subscribers can accept data it finishes, within `work s + 1` loop iterations, and at that
point everything it had taken from a publisher is handed over and flushed.
-/
import SeliumModel.Lemmas.PubSub
import SeliumModel.Lemmas.PubSubPeers
import SeliumModel.Lemmas.PubSubProgress
import SeliumModel.Lemmas.ReqRepShutdown
import SeliumModel.Lemmas.ReqRepParked
import SeliumModel.Lemmas.ReqRepExecutor
import SeliumModel.Lemmas.System

namespace Selium.Route
open Selium.Sink
variable {α : Type}

/-- closed ⇒ the poll finishes or is blocked on a subscriber (never idle, never waiting for publishers) -/
theorem c16_pubsub_closed_outcome (oracle : List Nat) (s : PS α) (hc : s.closed = true) :
    (pollFuel (work s + 1) oracle s).1 = .done ∨ (pollFuel (work s + 1) oracle s).1 = .blockedOnSink :=
  pollFuel_closed _ oracle s hc (pollFuel_terminates _ oracle s (Nat.lt_succ_self _))

/-- closed and subscribers able to accept data ⇒ the router finishes in bounded time, from any state -/
theorem c16_pubsub_finishes (oracle : List Nat) (s : PS α) (hc : s.closed = true) (hcalm : CalmState s) :
    (pollFuel (work s + 1) oracle s).1 = .done :=
  (c16_pubsub_closed_outcome oracle s hc).resolve_right (pollFuel_calm _ oracle s hcalm)

/-- … and before finishing it hands over and flushes every message it had already taken from a publisher:
    at `done`, for a state satisfying the C01 invariant, each subscriber holds the whole run and it is flushed. -/
theorem c16_pubsub_finishes_flushed (fuel : Nat) (oracle : List Nat) (s : PS α) (hinv : Inv s)
    (hd : (pollFuel fuel oracle s).1 = .done) :
    ∀ k ∈ (pollFuel fuel oracle s).2.1.sinks,
      k.got = (pollFuel fuel oracle s).2.1.accepted.drop k.regAt ∧ k.flushed = k.got.length :=
  pollFuel_delivered fuel oracle s hinv (Or.inr (Or.inr hd))

/-- a Pending sink only delays it: blocked means a sink answered Pending, i.e. it will wake the task -/
theorem c16_pubsub_blocked_then_retry (oracle : List Nat) (s : PS α) (hc : s.closed = true) :
    (pollFuel (work s + 1) oracle s).2.1.closed = true := (pollFuel_keeps_closed ..).trans hc

/-- "Shutdown therefore cannot hang on a topic." From ANY reachable state in which the channel has been closed,
    whatever the subscribers answer (any finite run of Pending answers, errors, at readiness or flush) and
    whatever `StreamMap` chooses: the wake-driven executor (`runPolls`: a poll happens only because a sink that
    answered Pending fired the waker) reaches `Poll::Ready(())` after at most `measure s` further polls, and at
    that point every subscriber still registered has been handed, and had flushed, every message the router had
    taken from a publisher since that subscriber's registration. -/
theorem c16_pubsub_shutdown_completes (history : List (Event α)) (hc : (exec history).closed = true)
    (orc : Nat → List Nat) :
    ∃ n, n ≤ measure (exec history) ∧
      (pollFuel (work (runPolls orc n (exec history)) + 1) (orc n) (runPolls orc n (exec history))).1 = .done ∧
      ∀ k ∈ (pollFuel (work (runPolls orc n (exec history)) + 1) (orc n) (runPolls orc n (exec history))).2.1.sinks,
        k.got = (pollFuel (work (runPolls orc n (exec history)) + 1) (orc n) (runPolls orc n (exec history))).2.1.accepted.drop k.regAt ∧
        k.flushed = k.got.length := by
  obtain ⟨n, hn, hd⟩ := runPolls_closed_finishes (exec history) hc orc
  exact ⟨n, hn, hd, c16_pubsub_finishes_flushed _ _ _ (runPolls_invariant pollFuel_inv orc n _ (exec_inv history)) hd⟩

/-- … and it takes nothing more from the publishers: after the channel is closed a poll, from any state and with
    any number of registrations still queued, leaves every publisher stream exactly as it was (no stream is polled:
    a poll would consume the head of its script or remove it) and accepts no further message. Shutdown does not
    depend on the publishers running dry. -/
theorem c16_pubsub_closed_takes_nothing_more (fuel : Nat) (oracle : List Nat) (s : PS α) (hc : s.closed = true) :
    (pollFuel fuel oracle s).2.1.accepted = s.accepted ∧
    ∃ adopted, (pollFuel fuel oracle s).2.1.streams = s.streams ++ adopted :=
  (pollFuel_reach fuel oracle s).elim fun _ hr => hr.closed_takes_nothing hc

/-! Non-vacuity: closing mid-delivery (an item buffered, a socket still queued, a publisher that is idle). -/
example :
    (pollFuel 10 [] ({ closed := true, buffered := some 4, accepted := [4], sinks := [{ id := 0 }],
                       streams := [{ id := 0, script := [.pending] }], queue := [.sink { id := 0 }] } : PS Nat)).1 = .done := by
  decide +kernel

/-- non-vacuity: a closed router whose only publisher has a standing backlog finishes without touching it -/
example :
    (pollFuel 10 [] ({ closed := true, sinks := [{ id := 0 }], nextSink := 1, nextStream := 1,
                       streams := [{ id := 0, script := List.replicate 50 (.item 9) }] } : PS Nat)).1 = .done := by
  decide +kernel

end Selium.Route


namespace Selium.Route
open Selium.Sink

/-- Once the channel is closed a poll of the request/reply router, from any state (idle, only one side
    connected, a request / reply / rejection buffered, sockets still queued), finishes or is waiting for one
    particular sink that answered Pending — within `rwork s + 1` iterations. It never goes back to waiting for
    peers' streams. -/
theorem c16_reqrep_closed_outcome (s : RR) (hc : s.closed = true) :
    (rrPoll (rwork s + 1) s).1 = .done ∨ (rrPoll (rwork s + 1) s).1 = .blockedOnReplier ∨
    (rrPoll (rwork s + 1) s).1 = .blockedOnRejected ∨ (rrPoll (rwork s + 1) s).1 = .blockedOnRequestor :=
  rrPoll_closed_outcome _ s hc (Nat.lt_succ_self _)

/-- … and when it finishes, every reply it had handed to a requestor's sink has been flushed. -/
theorem c16_reqrep_done_flushed (fuel : Nat) (s : RR) (h : (rrPoll fuel s).1 = .done) :
    ∀ k ∈ (rrPoll fuel s).2.sinks, k.flushed = k.got.length := (rrPoll_flushed fuel s).2 h

/-- "Shutdown therefore cannot hang on a topic", request/reply half: from any state in which the channel has been closed,
    whatever the requestors', the replier's and a rejected replier's sinks answer (any finite run of Pending answers, errors) and
    whatever the `StreamMap` / `HashMap` orders are, the wake-driven executor reaches `Poll::Ready(())` within `rmeasure s` further
    polls, and every reply that had been handed to a requestor's sink is flushed by then. -/
theorem c16_reqrep_shutdown_completes (s : RR) (hc : s.closed = true) (orc : Nat → List Nat × List Nat) :
    ∃ n, n ≤ rmeasure s ∧
      (rrPoll (rwork (rrRunPolls orc n s) + 1) (withOracles (rrRunPolls orc n s) (orc n))).1 = .done ∧
      ∀ k ∈ (rrPoll (rwork (rrRunPolls orc n s) + 1) (withOracles (rrRunPolls orc n s) (orc n))).2.sinks,
        k.flushed = k.got.length := by
  obtain ⟨n, hn, hb⟩ := rrRunPolls_unblocks s orc
  have hcl : (withOracles (rrRunPolls orc n s) (orc n)).closed = true :=
    rrRunPolls_executor.invariant (P := fun t => t.closed = true) (fun o s h => (rrPoll_closed _ (withOracles s o) h).2.1) orc n s hc
  have hdone : (rrPoll (rwork (rrRunPolls orc n s) + 1) (withOracles (rrRunPolls orc n s) (orc n))).1 = .done := by
    rcases rrPoll_closed_outcome (rwork (rrRunPolls orc n s) + 1) _ hcl (Nat.lt_succ_self _) with h | h | h | h
    · exact h
    all_goals rw [h] at hb; cases hb
  exact ⟨n, hn, hdone, (rrPoll_flushed _ _).2 hdone⟩

/-- Once the channel is closed a poll of the request/reply router, with any fuel and from any state, takes no
    further request from a requestor and no further reply from a replier: shutdown does not wait for the peers to
    run dry (what it had accepted before is dealt with as `c16_reqrep_closed_outcome` says). -/
theorem c16_reqrep_closed_takes_nothing_more (fuel : Nat) (s : RR) (hc : s.closed = true) :
    (rrPoll fuel s).2.taken = s.taken ∧ (rrPoll fuel s).2.repTaken = s.repTaken :=
  (rrPoll_closed fuel s hc).2.2

example : (rrPoll 20 ({ closed := true, bufReq := some (.msg none 1), queue := [.client { id := 0 } [.pending]] } : RR)).1 = .done := by
  decide +kernel

end Selium.Route

namespace Selium.Server
open Selium.Route Selium.Sink

/-- `topics.values_mut().for_each(|t| t.close_channel())`: after shutdown the registration channel of every topic
    the server knows — of either messaging pattern — is closed. -/
theorem c16_shutdown_closes_every_topic (history : List SEvent) (n : Name) :
    ((sysExec history).registry.lookup n = some .pubsub → ((sysExec (history ++ [.shutdown])).ps n).closed = true) ∧
    ((sysExec history).registry.lookup n = some .reqrep → ((sysExec (history ++ [.shutdown])).rr n).closed = true) := by
  rw [sysExec_snoc]
  exact ⟨fun h => congrArg PS.closed (if_pos h), fun h => congrArg RR.closed (if_pos h)⟩

/-- Shutdown cannot hang on a pub/sub topic of a running server: whatever the server's history (any names, peers,
    scripts, traffic in flight, registrations still queued), once `shutdown` has happened every pub/sub topic's
    router reaches `Poll::Ready(())` under the wake-driven executor after at most `measure` further polls, having
    handed over and flushed every message it had taken from a publisher. -/
theorem c16_server_shutdown_every_pubsub_topic_completes (history : List SEvent) (n : Name)
    (hreg : (sysExec history).registry.lookup n = some .pubsub) (orc : Nat → List Nat) :
    ∃ k, k ≤ measure ((sysExec (history ++ [.shutdown])).ps n) ∧
      (pollFuel (work (runPolls orc k ((sysExec (history ++ [.shutdown])).ps n)) + 1) (orc k)
        (runPolls orc k ((sysExec (history ++ [.shutdown])).ps n))).1 = .done ∧
      ∀ c ∈ (pollFuel (work (runPolls orc k ((sysExec (history ++ [.shutdown])).ps n)) + 1) (orc k)
              (runPolls orc k ((sysExec (history ++ [.shutdown])).ps n))).2.1.sinks,
        c.got = (pollFuel (work (runPolls orc k ((sysExec (history ++ [.shutdown])).ps n)) + 1) (orc k)
              (runPolls orc k ((sysExec (history ++ [.shutdown])).ps n))).2.1.accepted.drop c.regAt ∧
        c.flushed = c.got.length := by
  have hc := (c16_shutdown_closes_every_topic history n).1 hreg
  rw [sys_ps_is_router] at hc ⊢
  exact c16_pubsub_shutdown_completes _ hc orc

end Selium.Server

#print axioms Selium.Route.c16_pubsub_closed_outcome
#print axioms Selium.Route.c16_pubsub_finishes
#print axioms Selium.Route.c16_pubsub_finishes_flushed
#print axioms Selium.Route.c16_pubsub_blocked_then_retry
#print axioms Selium.Route.c16_pubsub_shutdown_completes
#print axioms Selium.Route.c16_pubsub_closed_takes_nothing_more
#print axioms Selium.Route.c16_reqrep_closed_outcome
#print axioms Selium.Route.c16_reqrep_done_flushed
#print axioms Selium.Route.c16_reqrep_shutdown_completes
#print axioms Selium.Route.c16_reqrep_closed_takes_nothing_more
#print axioms Selium.Server.c16_shutdown_closes_every_topic
#print axioms Selium.Server.c16_server_shutdown_every_pubsub_topic_completes
