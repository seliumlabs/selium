import SeliumModel.Wire.Bincode
import SeliumModel.Lemmas.Basic

namespace Selium
open Selium.Bincode

namespace Bincode

theorem takeLe_append (w n : Nat) (r : Bytes) (h : n < 256 ^ w) :
    takeLe w (leBytes w n ++ r) = .ok (n, r) := by
  have hw := leBytes_length w n
  rw [takeLe, if_neg (by simp), List.take_left' hw, List.drop_left' hw, leNat_leBytes w n h]

theorem takeLe_one (x : UInt8) (r : Bytes) : takeLe 1 (x :: r) = .ok (x.toNat, r) := by
  simp [takeLe, leNat]

theorem takeBytes_append (b r : Bytes) : takeBytes b.length (b ++ r) = .ok (b, r) := by
  rw [takeBytes, if_neg (by simp), List.take_left' rfl, List.drop_left' rfl]

theorem enc_dec_all :
    (∀ (v : Val) (t : Ty), hasTy v t = true → ∀ r, dec t (enc v ++ r) = .ok (v, r)) ∧
    (∀ (i : Nat) (v : Val) (ts : List Ty), variantTy i v ts = true →
        ∀ r, decVariant ts i (enc v ++ r) = .ok (v, r)) ∧
    (∀ (l : List Val) (ts : List Ty), fieldsTy l ts = true →
        ∀ r, decFields ts (encList l ++ r) = .ok (l, r)) ∧
    (∀ (l : List (Val × Val)) (k v : Ty), allPairsTy l k v = true →
        ∀ r, repeatDec2 (dec k) (dec v) l.length (encPairs l ++ r) = .ok (l, r)) ∧
    (∀ (l : List Val) (t : Ty), allTy l t = true →
        ∀ r, repeatDec (dec t) l.length (encList l ++ r) = .ok (l, r)) := by
  apply hasTy.mutual_induct
  -- scalars
  · intro n h r
    simp only [hasTy, decide_eq_true_eq] at h
    simp only [enc, dec, takeLe_append 1 n r h]
  · intro n h r
    simp only [hasTy, decide_eq_true_eq] at h
    simp only [enc, dec, takeLe_append 4 n r h]
  · intro n h r
    simp only [hasTy, decide_eq_true_eq] at h
    simp only [enc, dec, takeLe_append 8 n r h]
  -- str
  · intro b h r
    simp only [hasTy, Bool.and_eq_true, decide_eq_true_eq] at h
    simp only [enc, dec, List.append_assoc, takeLe_append 8 b.length _ h.2, takeBytes_append, h.1, if_true]
  -- bytes
  · intro b h r
    simp only [hasTy, decide_eq_true_eq] at h
    simp only [enc, dec, List.append_assoc, takeLe_append 8 b.length _ h, takeBytes_append]
  -- opt none
  · intro t _ r
    simp [enc, dec, takeLe_one]
  -- opt some
  · intro v t ih h r
    simp only [hasTy] at h
    simp [enc, dec, takeLe_one, ih h r]
  -- vec
  · intro l t ih h r
    simp only [hasTy, Bool.and_eq_true, decide_eq_true_eq] at h
    simp only [enc, dec, List.append_assoc, takeLe_append 8 l.length _ h.2, ih h.1 r]
  -- map
  · intro l k v ih h r
    simp only [hasTy, Bool.and_eq_true, decide_eq_true_eq] at h
    simp only [enc, dec, List.append_assoc, takeLe_append 8 l.length _ h.2, ih h.1 r]
  -- struct
  · intro l ts ih h r
    simp only [hasTy] at h
    simp only [enc, dec, ih h r]
  -- enum
  · intro idx v ts ih h r
    simp only [hasTy, Bool.and_eq_true, decide_eq_true_eq] at h
    simp only [enc, dec, List.append_assoc, takeLe_append 4 idx _ h.1, ih h.2 r]
  -- ill-typed combinations
  · intro x t h1 h2 h3 h4 h5 h6 h7 h8 h9 h10 h11 h
    rw [hasTy.eq_12 x t h1 h2 h3 h4 h5 h6 h7 h8 h9 h10 h11] at h
    cases h
  -- variantTy
  · intro i v h; simp [variantTy] at h
  · intro v t tail ih h r
    simp only [variantTy] at h
    simp only [decVariant, ih h r]
  · intro i v head ts ih h r
    simp only [variantTy] at h
    simp only [decVariant, ih h r]
  -- fieldsTy
  · intro _ r; rfl
  · intro v vs t ts ih1 ih2 h r
    simp only [fieldsTy, Bool.and_eq_true] at h
    simp only [encList, decFields, List.append_assoc, ih1 h.1, ih2 h.2]
  · intro l ts h1 h2 h
    rw [fieldsTy.eq_3 l ts h1 h2] at h
    cases h
  -- allPairsTy
  · intro k v _ r; rfl
  · intro a b rest k v ih1 ih2 ih3 h r
    simp only [allPairsTy, Bool.and_eq_true] at h
    simp only [encPairs, List.length_cons, repeatDec2, List.append_assoc, ih1 h.1.1, ih2 h.1.2, ih3 h.2]
  -- allTy
  · intro t _ r; rfl
  · intro v vs t ih1 ih2 h r
    simp only [allTy, Bool.and_eq_true] at h
    simp only [encList, List.length_cons, repeatDec, List.append_assoc, ih1 h.1, ih2 h.2]

theorem enc_dec (v : Val) (t : Ty) (h : hasTy v t = true) (r : Bytes) :
    dec t (enc v ++ r) = .ok (v, r) := enc_dec_all.1 v t h r

theorem enc_dec_nil (v : Val) (t : Ty) (h : hasTy v t = true) : dec t (enc v) = .ok (v, []) :=
  List.append_nil (enc v) ▸ enc_dec v t h []

end Bincode
end Selium
