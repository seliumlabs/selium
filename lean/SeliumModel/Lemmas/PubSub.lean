import SeliumModel.Lemmas.Scan
import SeliumModel.Lemmas.PubSubRun

namespace Selium.Route
open Selium.Sink
variable {α : Type}

/-- A live subscriber sink has been handed exactly the items accepted since it was adopted
    (`buf` is the one item taken from a publisher but not yet written). -/
def SinkOk (acc : List α) (buf : Option α) (k : Child α) : Prop :=
  k.regAt ≤ acc.length ∧ k.got ++ buf.toList = acc.drop k.regAt

/-- An evicted sink was handed a prefix of the same run. -/
def EvictedOk (acc : List α) (k : Child α) : Prop :=
  k.regAt ≤ acc.length ∧ k.got <+: acc.drop k.regAt

def InvC (sinks evicted : List (Child α)) (acc : List α) (buf : Option α) : Prop :=
  (∀ k ∈ sinks, SinkOk acc buf k) ∧ (∀ k ∈ evicted, EvictedOk acc k)

/-- the C01 invariant of a pub/sub router state -/
def Inv (s : PS α) : Prop := InvC s.sinks s.evicted s.accepted s.buffered

theorem SinkOk.toEvicted {acc : List α} {buf : Option α} {k : Child α} (h : SinkOk acc buf k) :
    EvictedOk acc k := ⟨h.1, by rw [← h.2]; exact List.prefix_append _ _⟩

namespace Inv
variable {s : PS α}

theorem withSinks {ks : List (Child α)} {buf' : Option α} (h : Inv s)
    (hk : ∀ k ∈ ks, SinkOk s.accepted buf' k) : Inv { s.withSinks ks with buffered := buf' } := by
  refine ⟨hk, fun k hk => ?_⟩
  rcases List.mem_append.mp hk with hk | hk
  · exact h.2 k hk
  · exact (h.1 k (List.mem_filter.mp hk).1).toEvicted

theorem scan (h : Inv s) (ans : Child α → Ans) (step : Child α → Child α) (ev : Nat → Ans → Ev α)
    (hstep : ∀ c, (step c).got = c.got ∧ (step c).regAt = c.regAt) :
    Inv (s.withSinks (pollLoop ans step ev [] s.sinks).2.1) :=
  h.withSinks ((pollLoop_scan ans step ev s.sinks).all (fun c hc => by unfold SinkOk; rw [(hstep c).1, (hstep c).2]; exact hc) h.1)

theorem send {x : α} (h : Inv s) (hb : s.buffered = some x) :
    Inv { s.withSinks (startSend x s.sinks).1 with buffered := none } := by
  refine h.withSinks fun k hk => ?_
  obtain ⟨c, hc, hok, rfl⟩ := startSend_mem x s.sinks k hk
  have := h.1 c hc
  unfold SinkOk at this ⊢
  simp only [hb, Child.afterSend, hok, if_true, Option.toList, List.append_nil] at this ⊢
  exact this

theorem item (h : Inv s) (hb : s.buffered = none) (x : α) (es : List (StreamSt α)) (sid : Nat) :
    Inv { s with streams := es, buffered := some x, accepted := s.accepted ++ [x], src := s.src ++ [sid] } := by
  have hlen {n : Nat} (hn : n ≤ s.accepted.length) : n ≤ (s.accepted ++ [x]).length := by
    rw [List.length_append]; exact Nat.le_add_right_of_le hn
  constructor
  · intro k hk
    obtain ⟨hr, hg⟩ := h.1 k hk
    rw [hb, Option.toList, List.append_nil] at hg
    exact ⟨hlen hr, by rw [List.drop_append_of_le_length hr, hg]; rfl⟩
  · intro k hk
    obtain ⟨hr, hg⟩ := h.2 k hk
    exact ⟨hlen hr, by rw [List.drop_append_of_le_length hr]; exact hg.trans (List.prefix_append _ _)⟩

theorem adopt (h : Inv s) (hb : s.buffered = none) (sock : Sock α) (q : List (Sock α)) :
    Inv (Route.adopt s sock q) := by
  cases sock with
  | stream sc => exact h
  | sink c =>
    refine ⟨fun k hk => ?_, h.2⟩
    rcases List.mem_append.mp hk with hk | hk
    · exact h.1 k hk
    · -- the new sink has got nothing, and is registered at the present end of `accepted`
      rw [List.mem_singleton.mp hk]
      refine ⟨Nat.le_refl _, ?_⟩
      show [] ++ s.buffered.toList = s.accepted.drop s.accepted.length
      rw [hb, List.drop_length]
      rfl

end Inv

theorem flushSinks_buffered (s : PS α) : (flushSinks s).2.1.buffered = s.buffered := rfl

theorem Reach.inv {n : Nat} {s t : PS α} (hr : Reach n s t) (h : Inv s) : Inv t := by
  induction hr with
  | refl => exact h
  | ready _ ih => exact ih (h.scan Child.readyAns Child.afterReady Ev.ready fun c => ⟨rfl, rfl⟩)
  | send x hb _ ih => exact ih (h.send hb)
  | flush _ ih => exact ih (h.scan Child.flushAns Child.afterFlush Ev.flush fun c => ⟨rfl, rfl⟩)
  | adopt sock q hb _ _ ih => exact ih (h.adopt hb sock q)
  | item i sid x es evs hb _ _ _ _ ih => exact ih (h.item hb x es sid)
  | reg _ ih | polled _ _ _ _ _ _ _ _ _ ih => exact ih h

theorem pollFuel_inv (fuel : Nat) (oracle : List Nat) (s : PS α) (h : Inv s) : Inv (pollFuel fuel oracle s).2.1 :=
  (pollFuel_reach fuel oracle s).elim fun _ hr => hr.inv h

theorem exec_inv (evs : List (Event α)) : Inv (exec evs) :=
  exec_invariant ⟨fun _ h => absurd h List.not_mem_nil, fun _ h => absurd h List.not_mem_nil⟩ (fun _ _ _ _ h => h)
    (fun _ _ _ hr => hr.inv) evs

theorem pollFuel_flushed (fuel : Nat) (o : List Nat) (s : PS α)
    (ho : (pollFuel fuel o s).1 = .idle ∨ (pollFuel fuel o s).1 = .waitingStreams ∨ (pollFuel fuel o s).1 = .done) :
    (pollFuel fuel o s).2.1.buffered = none ∧ ∀ k ∈ (pollFuel fuel o s).2.1.sinks, k.flushed = k.got.length := by
  obtain ⟨n, t, _, hf, _⟩ := pollFuel_run fuel o s
  generalize (pollFuel fuel o s).1 = out, (pollFuel fuel o s).2.1 = s' at hf ho ⊢
  cases hf with
  | outOfFuel | notReady | notFlushed => simp at ho
  | done hb _ _ hr | idle hb _ _ _ hr | waiting _ _ _ hb _ _ _ _ _ hr => exact ⟨hb, (pollLoop_scan _ _ _ _).flushed hr⟩

theorem pollFuel_delivered (fuel : Nat) (o : List Nat) (s : PS α) (hinv : Inv s)
    (ho : (pollFuel fuel o s).1 = .idle ∨ (pollFuel fuel o s).1 = .waitingStreams ∨ (pollFuel fuel o s).1 = .done) :
    ∀ k ∈ (pollFuel fuel o s).2.1.sinks,
      k.got = (pollFuel fuel o s).2.1.accepted.drop k.regAt ∧ k.flushed = k.got.length := by
  intro k hk
  have hq := pollFuel_flushed fuel o s ho
  have := ((pollFuel_inv fuel o s hinv).1 k hk).2
  rw [hq.1, Option.toList, List.append_nil] at this
  exact ⟨this, hq.2 k hk⟩

theorem flushSinks_queue (s : PS α) : (flushSinks s).2.1.queue = s.queue ∧ (flushSinks s).2.1.handleReg = s.handleReg :=
  ⟨rfl, rfl⟩

theorem pollFuel_drained (fuel : Nat) (o : List Nat) (s : PS α)
    (ho : (pollFuel fuel o s).1 = .idle ∨ (pollFuel fuel o s).1 = .waitingStreams) :
    (pollFuel fuel o s).2.1.queue = [] ∧ (pollFuel fuel o s).2.1.handleReg = true := by
  obtain ⟨n, t, _, hf, _⟩ := pollFuel_run fuel o s
  generalize (pollFuel fuel o s).1 = out, (pollFuel fuel o s).2.1 = s' at hf ho ⊢
  cases hf with
  | outOfFuel | notReady | notFlushed | done => simp at ho
  | idle _ hq _ hr _ | waiting _ _ _ _ hq _ hr _ _ _ => exact ⟨hq, hr⟩

end Selium.Route
