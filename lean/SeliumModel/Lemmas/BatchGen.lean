/-
The definitions the translator prints from `protocol/src/utils.rs` (`Gen/BatchFn.lean`: `read_u64`, the loop of
`decode_message_batch`, `decode_message_batch`) are the hand-written model `Wire.decodeBatch` (`Wire/Batch.lean`), for
every input, up to the text of errors and what is left of `bytes` (the statements go through `Rs.Out.value`).
-/
import SeliumModel.Gen.BatchFn
import SeliumModel.Lemmas.Rs
import SeliumModel.Wire.Batch

namespace Selium.Wire
open Selium Selium.Gen

theorem gen_read_u64 (b : Bytes) :
    BatchFn.read_u64 b = if b.length < 8 then .err "malformed_batch" else .ok (beNat (b.take 8), b.drop 8) := by
  unfold BatchFn.read_u64
  split
  · rfl
  · next h => simp only [Rs.getU64, if_pos (Nat.not_lt.1 h), fromBe_eq_beNat]; rfl

theorem gen_batch_loop_step (n : Nat) (acc : List Bytes) (b : Bytes) (h8 : ¬ b.length < 8)
    (hl : ¬ (b.drop 8).length < beNat (b.take 8)) :
    BatchFn.decode_message_batch_loop (n + 1) acc b =
      BatchFn.decode_message_batch_loop n (acc ++ [(b.drop 8).take (beNat (b.take 8))])
        ((b.drop 8).drop (beNat (b.take 8))) := by
  rw [BatchFn.decode_message_batch_loop, gen_read_u64, if_neg h8]
  simp only [if_neg hl, splitTo_of_le (Nat.not_lt.1 hl)]

theorem gen_batch_loop (n : Nat) (acc : List Bytes) (b : Bytes) :
    Rs.Out.shape (Rs.Out.value (BatchFn.decode_message_batch_loop n acc b))
      = Rs.Out.shape (toOut ((decodeBatchN n b).map (acc ++ ·))) := by
  fun_induction decodeBatchN n b generalizing acc with
  | case1 b => simp [BatchFn.decode_message_batch_loop, Res.map, toOut, Rs.Out.value, Rs.Out.shape]
  -- no room for a length marker; a marker that promises more than is there
  | case2 n b h8 => rw [BatchFn.decode_message_batch_loop, gen_read_u64, if_pos h8]; rfl
  | case3 n b h8 hl => rw [BatchFn.decode_message_batch_loop, gen_read_u64, if_neg h8]; simp only [if_pos hl]; rfl
  -- a message is read, and the rest of the batch is read, refused, or (never) panics
  | case4 n b h8 hl _ hrec ih | case5 n b h8 hl _ hrec ih | case6 n b h8 hl _ hrec ih =>
    rw [gen_batch_loop_step n acc b h8 hl, ih, hrec]; simp [Res.map]

theorem gen_decode_batch_eq (b : Bytes) :
    Rs.Out.shape (Rs.Out.value (BatchFn.decode_message_batch b)) = Rs.Out.shape (toOut (decodeBatch b)) := by
  unfold BatchFn.decode_message_batch decodeBatch
  rw [gen_read_u64]
  by_cases h : b.length < 8
  · simp only [if_pos h]; rfl
  · simp only [if_neg h]
    -- the loop started with no messages returns what the model reads; the last `match` only repacks it
    have := gen_batch_loop (beNat (b.take 8)) [] (b.drop 8)
    rw [show (decodeBatchN (beNat (b.take 8)) (b.drop 8)).map ([] ++ ·) = decodeBatchN (beNat (b.take 8)) (b.drop 8) by
      cases decodeBatchN (beNat (b.take 8)) (b.drop 8) <;> rfl] at this
    rw [← this]
    cases BatchFn.decode_message_batch_loop (beNat (b.take 8)) [] (b.drop 8) <;> rfl

end Selium.Wire
