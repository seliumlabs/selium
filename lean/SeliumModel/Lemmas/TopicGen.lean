/-
The definition the translator prints from `protocol/src/topic_name.rs` (`Gen/TopicFn.lean`: `TopicName::is_valid`, the
check `create` and the server apply to names that did not come through `try_from`) is the hand-written model
`Topic.isValid`, for all strings. `COMPONENT_REGEX.is_match` enters the generated definition as a parameter and is
instantiated with the model's matcher (`compMatch`, built from the regex the translator parsed out of the same file).
-/
import SeliumModel.Gen.TopicFn
import SeliumModel.Topic.Name

namespace Selium.Topic
open Selium Selium.Gen

/-- the constant the generated function mentions is the one the model's tables were built from -/
theorem gen_reserved_eq : TopicFn.RESERVED_NAMESPACE = Selium.Gen.Topic.reserved := by decide

theorem gen_is_valid_eq (ns tp : Str) : TopicFn.is_valid compMatch ns tp = isValid ns tp := by
  -- the translated propositional connectives, decided, are the model's Boolean ones
  simp only [TopicFn.is_valid, isValid, Rs.startsWith, gen_reserved_eq, decide_not, Bool.decide_or, Bool.decide_eq_true]

end Selium.Topic
