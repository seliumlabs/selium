import SeliumModel.Lemmas.ReqRepFlow
/-
A summary of each block of the request/reply loop: how it can end and which fields of the state it can touch.
`partX_post` reduces a postcondition of block X to its instances at those outcomes, for every value of those fields.
A fact that does not read the touched fields needs nothing else (for an invariant: `Reads`, below); one that does walks
the block (`fun_cases partX s`). There is no `partH_post`: each of block H's five cases ends differently, so
`fun_cases partH s` is its summary.

The cases of `fun_cases`, by number, as the proofs here and in the files that import this one name them:
  partA  1 replier's sink Pending; 2 its sink Err: unbound; 3 request handed over; 4 request refused: lost;
         5 no request buffered or no replier bound
  partB  1 no rejection; 2–5 error frame still to send: sink Pending / Err / sent (`again`) / refused;
         6–7 closing: Pending / any other answer
  partH  1 a socket is queued: adopted (`again`); 2–3 closed: requestors' sinks Pending / `done`; 4 `idle`; 5 goes on
  partD  1–3 the replier's stream yields item / err / pending; 4–6 it has ended: replier's sink Pending /
         requestors' sinks Pending / unbound; 7 no replier bound or a reply still buffered
  partE  1 no reply buffered; 2 requestors' sinks Pending; 3 reply routed
  partF  1 request taken; 2 a frame of another kind; 3 stream error; 4 streams pending; 5–7 no streams:
         requestors' sinks Pending / flushed, replier bound: `flushReplier` / flushed, no replier
  partG  1–3 both sides pending: requestors' sinks Pending / flushed, replier bound: `flushReplier`, then `waiting` /
         flushed, no replier: `waiting`; 4 otherwise `again`
  flushReplier  1 Pending; 2 Err: unbound, `after` runs; 3 flushed, `after` runs
  adoptSock     1 a requestor; 2 a replier while one is bound: rejection buffered; 3 a replier, none bound: bound
-/
namespace Selium.Route
open Selium.Sink
variable {R : ROutcome → RR → Prop} {N A P : RR → Prop}

theorem adoptSock_frame (s : RR) (sock : RSock) (q : List RSock)
    (h : ∀ sv st ks i n e, P { s with queue := q, server := sv, streams := st, sinks := ks, nextId := i, nextServer := n, bufErr := e }) :
    P (adoptSock s sock q) := by
  fun_cases adoptSock s sock q
  all_goals exact h _ _ _ _ _ _

theorem flushReplier_post (s : RR) (r : Replier) (after : RR → Flow)
    (h : ∀ sv tr, let t := { s with server := sv, trace := tr }; R .blockedOnReplier t ∧ (after t).Post R N A) :
    (flushReplier s r after).Post R N A := by
  fun_cases flushReplier s r after
  · exact (h _ _).1
  · exact (h _ _).2
  · exact (h _ _).2

theorem partA_post (s : RR)
    (h : ∀ sv b hd l tr, let t := { s with server := sv, bufReq := b, handed := hd, lost := l, trace := tr }
      R .blockedOnReplier t ∧ N t) : (partA s).Post R N A := by
  fun_cases partA s
  · exact (h _ _ _ _ _).1
  all_goals exact (h _ _ _ _ _).2

theorem partB_post (s : RR)
    (h : ∀ e j tr, let t := { s with bufErr := e, rejected := j, trace := tr }; R .blockedOnRejected t ∧ N t ∧ A t) :
    (partB s).Post R N A := by
  fun_cases partB s
  case case4 => exact (h _ _ _).2.2
  case case2 | case6 => exact (h _ _ _).1
  all_goals exact (h _ _ _).2.1

theorem partD_post (s : RR)
    (h : ∀ sv b rt sp ks ko tr,
      let t := { s with server := sv, bufRep := b, repTaken := rt, serverPending := sp, sinks := ks, ko := ko, trace := tr }
      R .blockedOnReplier t ∧ R .blockedOnRequestor t ∧ N t) :
    (partD s).Post R N A := by
  fun_cases partD s
  case case4 => exact (h _ _ _ _ _ _ _).1
  case case5 => exact (h _ _ _ _ _ _ _).2.1
  all_goals exact (h _ _ _ _ _ _ _).2.2

theorem partE_post (s : RR)
    (h : ∀ b rd ks ko tr, let t := { s with bufRep := b, routed := rd, sinks := ks, ko := ko, trace := tr }
      R .blockedOnRequestor t ∧ N t) : (partE s).Post R N A := by
  fun_cases partE s
  case case2 => exact (h _ _ _ _ _).1
  all_goals exact (h _ _ _ _ _).2

theorem partF_post (s : RR)
    (h : ∀ st so b tk l sp sv ks ko tr,
      let t := { s with streams := st, so := so, bufReq := b, taken := tk, lost := l, streamPending := sp, server := sv,
                        sinks := ks, ko := ko, trace := tr }
      R .blockedOnRequestor t ∧ R .blockedOnReplier t ∧ N t) :
    (partF s).Post R N A := by
  fun_cases partF s
  case case5 => exact (h _ _ _ _ _ _ _ _ _ _).1
  case case6 => exact flushReplier_post _ _ _ fun _ _ => ⟨(h _ _ _ _ _ _ _ _ _ _).2.1, (h _ _ _ _ _ _ _ _ _ _).2.2⟩
  all_goals exact (h _ _ _ _ _ _ _ _ _ _).2.2

theorem partG_post (s : RR)
    (h : ∀ sv ks ko tr, let t := { s with server := sv, sinks := ks, ko := ko, trace := tr }
      R .blockedOnRequestor t ∧ R .blockedOnReplier t ∧ R .waiting t) (ha : A s) : (partG s).Post R N A := by
  fun_cases partG s
  · exact (h _ _ _ _).1
  · exact flushReplier_post _ _ _ fun _ _ => ⟨(h _ _ _ _).2.1, (h _ _ _ _).2.2⟩
  · exact (h _ _ _ _).2.2
  · exact ha

theorem flushReplier_frame (s : RR) (r : Replier) (after : RR → Flow) (h : ∀ sv tr, P { s with server := sv, trace := tr })
    (hafter : ∀ t, P t → P (after t).state) : P (flushReplier s r after).state :=
  (flushReplier_post s r after fun sv tr => ⟨h sv tr, .of_state (hafter _ (h sv tr))⟩).state

/-! Most invariants read only a few fields. `Reads π P`: `P` depends on the state only through `π s`. A block, or the
    environment, that does not write what `π` reads then keeps `P`; that it does not is checked by `rfl`. -/

def Reads {V : Type} (π : RR → V) (P : RR → Prop) : Prop := ∀ ⦃s t⦄, P s → π t = π s → P t

/-- For "block X leaves these fields as they were": `π` the tuple of the fields (`c10_bound_replier_unaffected`). -/
theorem Reads.view {V : Type} (π : RR → V) (s : RR) : Reads π (π · = π s) := fun _ _ h e => e.trans h

namespace Reads
variable {V : Type} {π : RR → V} (hr : Reads π P)
include hr

theorem env
    (hπ : ∀ s q c hg so ko sp tp,
      π { s with queue := q, closed := c, handleReg := hg, so := so, ko := ko, serverPending := sp,
                 streamPending := tp } = π s := by intros; rfl) : EnvIndep P :=
  fun _ _ _ _ _ _ _ _ h => hr h (hπ ..)

theorem partA (hπ : ∀ s sv b hd l tr, π { s with server := sv, bufReq := b, handed := hd, lost := l, trace := tr } = π s := by
    intros; rfl) : ∀ s, P s → P (partA s).state :=
  fun s h => (partA_post s fun _ _ _ _ _ => ⟨hr h (hπ ..), hr h (hπ ..)⟩).state

theorem partB (hπ : ∀ s e j tr, π { s with bufErr := e, rejected := j, trace := tr } = π s := by intros; rfl) :
    ∀ s, P s → P (partB s).state :=
  fun s h => (partB_post s fun _ _ _ => ⟨hr h (hπ ..), hr h (hπ ..), hr h (hπ ..)⟩).state

theorem partH
    (hπ : ∀ s q sv st ks i n e ko tr hg,
      π { s with queue := q, server := sv, streams := st, sinks := ks, nextId := i, nextServer := n, bufErr := e,
                 ko := ko, trace := tr, handleReg := hg } = π s := by intros; rfl) :
    ∀ s, P s → P (partH s).state :=
  fun s h => by
    fun_cases Route.partH s
    · exact adoptSock_frame s _ _ fun _ _ _ _ _ _ => hr h (hπ s ..)
    all_goals exact hr h (hπ s ..)

theorem partD
    (hπ : ∀ s sv b rt sp ks ko tr,
      π { s with server := sv, bufRep := b, repTaken := rt, serverPending := sp, sinks := ks, ko := ko,
                 trace := tr } = π s := by intros; rfl) : ∀ s, P s → P (partD s).state :=
  fun s h => (partD_post s fun _ _ _ _ _ _ _ => ⟨hr h (hπ ..), hr h (hπ ..), hr h (hπ ..)⟩).state

theorem partE (hπ : ∀ s b rd ks ko tr, π { s with bufRep := b, routed := rd, sinks := ks, ko := ko, trace := tr } = π s := by
    intros; rfl) : ∀ s, P s → P (partE s).state :=
  fun s h => (partE_post s fun _ _ _ _ _ => ⟨hr h (hπ ..), hr h (hπ ..)⟩).state

theorem partF
    (hπ : ∀ s st so b tk l sp sv ks ko tr,
      π { s with streams := st, so := so, bufReq := b, taken := tk, lost := l, streamPending := sp, server := sv,
                 sinks := ks, ko := ko, trace := tr } = π s := by intros; rfl) :
    ∀ s, P s → P (partF s).state :=
  fun s h => (partF_post s fun _ _ _ _ _ _ _ _ _ _ => ⟨hr h (hπ ..), hr h (hπ ..), hr h (hπ ..)⟩).state

theorem partG (hπ : ∀ s sv ks ko tr, π { s with server := sv, sinks := ks, ko := ko, trace := tr } = π s := by intros; rfl) :
    ∀ s, P s → P (partG s).state :=
  fun s h => (partG_post s (fun _ _ _ _ => ⟨hr h (hπ ..), hr h (hπ ..), hr h (hπ ..)⟩) h).state

end Reads

end Selium.Route
