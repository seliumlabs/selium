import SeliumModel.Lemmas.ReqRepBlocks
namespace Selium.Route
open Selium.Sink

/-! ## Late repliers are told so and closed, nothing else (C10) -/

structure RejInv (s : RR) : Prop where
  finished : ∀ j ∈ s.rejected, j.sink.got = [] ∨ j.sink.got = [rejectionFrame]
  current : ∀ j, s.bufErr = some j → j.sink.got = if j.toSend then [] else [rejectionFrame]

theorem rejReads : Reads (fun s => (s.rejected, s.bufErr)) RejInv := fun {s t} h e => by
  obtain ⟨h1, h2⟩ : t.rejected = s.rejected ∧ t.bufErr = s.bufErr := Prod.mk.inj e
  exact ⟨by rw [h1]; exact h.finished, by rw [h2]; exact h.current⟩

theorem RejInv.goOn {s : RR} (h : RejInv s) (j : Rejection) (hj : j.sink.got = if j.toSend then [] else [rejectionFrame]) :
    RejInv { s with bufErr := some j } :=
  ⟨h.finished, fun _ e => Option.some.inj e ▸ hj⟩

theorem RejInv.finish {s : RR} (h : RejInv s) (j : Rejection) (hj : j.sink.got = [] ∨ j.sink.got = [rejectionFrame]) :
    RejInv { s with bufErr := none, rejected := s.rejected ++ [j] } :=
  ⟨fun j' hj' => (List.mem_append.mp hj').elim (h.finished j') fun e => List.mem_singleton.mp e ▸ hj, nofun⟩

theorem partB_rej (s : RR) (h : RejInv s) : RejInv (partB s).state := by
  fun_cases partB s
  case case1 => exact h
  -- the error frame is still to be sent: nothing has been sent so far
  case case2 j hj hts _ =>
    exact rejReads (h.goOn { j with sink := j.sink.afterReady } (h.current j hj)) rfl
  case case3 j hj hts _ =>
    exact rejReads (h.finish { j with sink := j.sink.afterReady } (.inl ((h.current j hj).trans (if_pos hts)))) rfl
  case case4 j hj hts _ hok =>
    have hcur : j.sink.afterReady.got = [] := (h.current j hj).trans (if_pos hts)
    exact rejReads (h.goOn ⟨false, j.n, j.sink.afterReady.afterSend rejectionFrame⟩
      (by rw [Child.afterSend, if_pos hok, hcur]; rfl)) rfl
  case case5 j hj hts _ hok =>
    have hcur : j.sink.afterReady.got = [] := (h.current j hj).trans (if_pos hts)
    exact rejReads (h.finish { j with sink := j.sink.afterReady.afterSend rejectionFrame }
      (.inl (by rw [Child.afterSend, if_neg hok, hcur]))) rfl
  -- it has been sent: the sink is being closed
  case case6 j hj hts _ =>
    exact rejReads (h.goOn { j with sink := j.sink.afterClose } (h.current j hj)) rfl
  case case7 j hj hts _ =>
    exact rejReads (h.finish { j with sink := j.sink.afterClose } (.inr ((h.current j hj).trans (if_neg hts)))) rfl

theorem adoptSock_rej (s : RR) (sock : RSock) (q : List RSock) (h : RejInv s) : RejInv (adoptSock s sock q) := by
  fun_cases adoptSock s sock q
  case case2 => exact rejReads (h.goOn _ rfl) rfl
  all_goals exact rejReads h rfl

theorem rejInv : Invariant RejInv where
  init := ⟨nofun, nofun⟩
  env := rejReads.env
  partA := rejReads.partA
  partB := partB_rej
  partH s h := by
    fun_cases partH s
    · exact adoptSock_rej s _ _ h
    all_goals exact rejReads h rfl
  partD := rejReads.partD
  partE := rejReads.partE
  partF := rejReads.partF
  partG := rejReads.partG

end Selium.Route
