import SeliumModel.Client.Subscriber
/-
`Subscriber::poll_next`, driven call after call, yields exactly `subscriberOutputs` of the frames it is fed: the
list-level specification the end-to-end theorem (C03) speaks about is what the state machine does.
-/
namespace Selium.Client
open Selium Selium.Wire

variable {α : Type}

def Sub.pendingOutputs (c : Codec α) (z : Compressor) (batch : List Bytes) (frames : List WFrame) : List (Res α) :=
  batch.map c.decode ++ subscriberOutputs c z frames

theorem recvOne_eq (c : Codec α) (z : Compressor) (b : Bytes) :
    recvOne c z b = (match z.decompress b with | .ok m => c.decode m | .err e => .err e | .panic s => .panic s) := rfl

/-- one call, with fuel for the whole script: an item is the first pending output and the rest stays pending; `None`
    means nothing was pending. `hs` says the script holds frames only, so the arms that take `.pending` or `.ioErr` off it
    (`case4`, `case5`) cannot be reached, and `hf` rules out running out of fuel (`case1`): no call returns anything but
    an item or `None`, which is why the statement can end in `| _ => False`. -/
theorem pollNext_spec (c : Codec α) (z : Compressor) (r : Bool) (fuel : Nat) (s : Sub) (frames : List WFrame)
    (hs : frames.map .frame = s.script) (hf : frames.length < fuel) :
    match (Sub.pollNext c z r fuel s).1 with
    | .item x => ∃ f', f'.map .frame = (Sub.pollNext c z r fuel s).2.1.script ∧
        Sub.pendingOutputs c z s.batch frames = x :: Sub.pendingOutputs c z (Sub.pollNext c z r fuel s).2.1.batch f'
    | .none => Sub.pendingOutputs c z s.batch frames = []
    | _ => False := by
  -- the arms of `Sub.pollNext`: `case1` out of fuel; `case2` an item of the current batch; `case3`–`case7` script
  -- empty, pending, i/o error, message frame, other frame; `case8` a batch frame that decompresses and unbatches (the
  -- self-call); `case9`, `case10` `decodeBatch` refuses, panics; `case11`, `case12` the decompressor refuses, panics
  fun_induction Sub.pollNext c z r fuel s generalizing frames with
  | case1 => cases hf
  | case2 fuel s m ms hb => exact ⟨frames, hs, by rw [hb]; rfl⟩
  | case3 fuel s hb hq => rw [hb, List.map_eq_nil_iff.1 (hs.trans hq)]; rfl
  | case4 fuel s hb q hq | case5 fuel s hb q hq =>
    obtain ⟨_, _, _, h, _⟩ := List.map_eq_cons_iff.1 (hs.trans hq); cases h
  | case7 fuel s hb q hq =>
    obtain ⟨_, fs, rfl, h, rfl⟩ := List.map_eq_cons_iff.1 (hs.trans hq); cases h
    rw [hb]; rfl
  | case8 fuel s hb b q hq x hz ms hd ih =>
    -- a batch: its messages are loaded and the call goes on; the pending outputs are the same
    obtain ⟨_, fs, rfl, h, rfl⟩ := List.map_eq_cons_iff.1 (hs.trans hq); cases h
    have he : Sub.pendingOutputs c z s.batch (.batch b :: fs) = Sub.pendingOutputs c z ms fs := by
      rw [hb]; simp only [Sub.pendingOutputs, subscriberOutputs, hz, hd, List.map_nil, List.nil_append]
    rw [he]
    exact ih fs rfl (Nat.lt_of_succ_lt_succ hf)
  | _ fuel s hb b q hq =>
    -- a message, or a batch that does not decompress or decode: one output
    obtain ⟨_, fs, rfl, h, rfl⟩ := List.map_eq_cons_iff.1 (hs.trans hq); cases h
    refine ⟨fs, rfl, ?_⟩
    rw [hb]; simp only [Sub.pendingOutputs, subscriberOutputs, *]; rfl

theorem Sub.drain_spec (c : Codec α) (z : Compressor) (r : Bool) (n : Nat) (s : Sub) (frames : List WFrame)
    (hs : frames.map .frame = s.script) (hn : (Sub.pendingOutputs c z s.batch frames).length < n) :
    (Sub.drain c z r n s).1 = Sub.pendingOutputs c z s.batch frames := by
  induction n generalizing s frames with
  | zero => cases hn
  | succ k ih =>
    have hp := pollNext_spec c z r (s.script.length + 1) s frames hs (by rw [← hs, List.length_map]; exact Nat.lt_succ_self _)
    rw [Sub.drain]
    generalize Sub.pollNext c z r (s.script.length + 1) s = res at hp
    obtain ⟨o, s', d⟩ := res
    cases o with
    | item x =>
      obtain ⟨f', h1, h2⟩ := hp
      rw [h2] at hn ⊢
      exact congrArg _ (ih s' f' h1 (Nat.lt_of_succ_lt_succ hn))
    | none => exact hp.symm
    | _ => cases hp
end Selium.Client
