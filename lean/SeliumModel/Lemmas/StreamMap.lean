import SeliumModel.Route.PubSub
import SeliumModel.Lemmas.List
namespace Selium.Route
open Selium.Sink
variable {α : Type}

theorem swapRemove_perm {β : Type} (l : List β) (i : Nat) (h : i < l.length) :
    (swapRemove l i).Perm (l.eraseIdx i) := by
  unfold swapRemove
  split
  · rename_i hnone
    rw [List.getLast?_eq_none_iff.mp hnone] at h
    cases h
  · rename_i last hlast
    split
    · rename_i hi
      rw [List.eraseIdx_eq_dropLast hi]
    · -- `l = d ++ [last]` and `i` is an index of `d`: `last` overwrites the entry at `i` and goes from the end
      rename_i hi
      obtain ⟨d, rfl⟩ := List.getLast?_eq_some_iff.mp hlast
      rw [List.length_append] at h hi
      have hd : i < d.length := Nat.lt_of_le_of_ne (Nat.le_of_lt_succ h) fun e => hi (congrArg (· + 1) e)
      rw [List.set_append_left _ _ hd, List.dropLast_concat, List.eraseIdx_append_of_lt_length hd]
      exact (set_perm_cons_eraseIdx hd last).trans (List.perm_append_singleton ..).symm

theorem perm_cons_swapRemove {β : Type} (l : List β) (i : Nat) (a : β) (h : l[i]? = some a) :
    l.Perm (a :: swapRemove l i) :=
  (perm_cons_eraseIdx h).trans (.cons a (swapRemove_perm l i (List.getElem?_eq_some_iff.mp h).1).symm)

theorem length_swapRemove {β : Type} (l : List β) (i : Nat) (h : i < l.length) :
    (swapRemove l i).length + 1 = l.length :=
  (perm_cons_swapRemove l i l[i] (List.getElem?_eq_getElem h)).length_eq.symm

theorem streamsWeight_set (es : List (StreamSt α)) (idx : Nat) (st st' : StreamSt α) {a : SAns α}
    (h : es[idx]? = some st) (hs : st.script = a :: st'.script) :
    streamsWeight (es.set idx st') < streamsWeight es := by
  unfold streamsWeight
  rw [((set_perm_cons_eraseIdx (List.getElem?_eq_some_iff.mp h).1 st').map _).sum_nat, ((perm_cons_eraseIdx h).map _).sum_nat,
    List.map_cons, List.sum_cons, List.map_cons, List.sum_cons, hs]
  exact Nat.add_lt_add_right (Nat.lt_succ_self _) _

theorem streamsWeight_swapRemove (es : List (StreamSt α)) (idx : Nat) (st : StreamSt α) (h : es[idx]? = some st) :
    streamsWeight (swapRemove es idx) < streamsWeight es := by
  unfold streamsWeight
  rw [((perm_cons_swapRemove es idx st h).map _).sum_nat, List.map_cons, List.sum_cons]
  exact Nat.lt_add_of_pos_left (Nat.succ_pos _)

theorem smLoop_weight (n start idx : Nat) (es : List (StreamSt α)) :
    streamsWeight (smLoop n start idx es).2.1 ≤ streamsWeight es ∧
    (0 < n → idx < es.length → streamsWeight (smLoop n start idx es).2.1 < streamsWeight es) := by
  fun_induction smLoop n start idx es with
  | case1 => exact ⟨Nat.le_refl _, fun h => absurd h (Nat.lt_irrefl 0)⟩
  | case2 n start idx es h => exact ⟨Nat.le_refl _, fun _ hi => by rw [List.getElem?_eq_getElem hi] at h; cases h⟩
  | case3 n start idx es st h x q hs =>
    have := streamsWeight_set es idx st { st with script := q, taken := st.taken ++ [x] } h hs
    exact ⟨Nat.le_of_lt this, fun _ _ => this⟩
  | case4 n start idx es st h q hs =>
    have := streamsWeight_set es idx st { st with script := q } h hs
    exact ⟨Nat.le_of_lt this, fun _ _ => this⟩
  | case5 n start idx es st h q hs ih =>
    have := Nat.lt_of_le_of_lt ih.1 (streamsWeight_set es idx st { st with script := q } h hs)
    exact ⟨Nat.le_of_lt this, fun _ _ => this⟩
  | case6 n start idx es st h hs ih =>
    have := Nat.lt_of_le_of_lt ih.1 (streamsWeight_swapRemove es idx st h)
    exact ⟨Nat.le_of_lt this, fun _ _ => this⟩

theorem smPoll_weight_le (sid : Nat) (es : List (StreamSt α)) :
    streamsWeight (smPoll sid es).2.1 ≤ streamsWeight es := (smLoop_weight _ _ _ _).1

theorem smPoll_weight_lt (sid : Nat) (es : List (StreamSt α)) (h : es ≠ []) :
    streamsWeight (smPoll sid es).2.1 < streamsWeight es :=
  (smLoop_weight _ _ _ _).2 (List.length_pos_iff.mpr h) (findIdx?_getD_lt _ h)

end Selium.Route
