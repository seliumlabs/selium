import SeliumModel.Lemmas.ReqRepProgress
import SeliumModel.Lemmas.Executor
/-
The request/reply router under a wake-driven executor (C09, C16). `rmeasure s` is everything the peers of a topic can
still make the router work on (`rwork`) or wait for (`rpat`). A poll that ends blocked on a sink (the replier's, a rejected
replier's, a requestor's) has used up one of the answers the sinks hold (`rrPoll_effect`), so at most `rpat s` polls end
blocked.
-/
namespace Selium.Route
open Selium.Sink

def rmeasure (s : RR) : Nat :=
  rwork s + pat3 s.sinks + srvPat s.server + errPat s.bufErr + (s.queue.map rsockPat).sum

theorem rmeasure_eq (s : RR) : rmeasure s = rwork s + rpat s := by
  simp only [rmeasure, rpat, Nat.add_assoc]

/-- `Effect` in terms of the one measure, the vocabulary of `c09_reqrep_blocked_poll_makes_progress`: a block never
    increases it; when it returns blocked on a sink it has decreased it. With its composition rule `Meas.andThen` a result
    of its own: the proofs in this library go through `Effect` and `rmeasure_eq`, not through `Meas`. -/
def Meas (s : RR) (f : Flow) : Prop :=
  match f with
  | .ret o s' => rmeasure s' ≤ rmeasure s ∧ (o.isBlocked = true → rmeasure s' < rmeasure s)
  | .next s' => rmeasure s' ≤ rmeasure s
  | .again s' => rmeasure s' ≤ rmeasure s

theorem Meas.andThen {s0 : RR} {f : Flow} {g : RR → Flow} (hf : Meas s0 f) (hg : ∀ s, Meas s (g s)) :
    Meas s0 (f.andThen g) :=
  Flow.Post.andThen (A := fun s' => rmeasure s' ≤ rmeasure s0) hf fun s2 h2 =>
    Flow.Post.mono (hg s2) (fun _ _ h => ⟨Nat.le_trans h.1 h2, fun hb => Nat.lt_of_lt_of_le (h.2 hb) h2⟩)
      (fun _ h => Nat.le_trans h h2) fun _ h => Nat.le_trans h h2

/-- the state a poll starts from: the oracles (`StreamMap`'s random start, the `HashMap`'s iteration order) for this poll -/
def withOracles (s : RR) (o : List Nat × List Nat) : RR := { s with so := o.1, ko := o.2 }

/-- A wake-driven executor for the request/reply router: polled again only because a child that answered Pending
    fired the waker. `orc k` are the oracles of the `k`-th poll. -/
def rrRunPolls (orc : Nat → List Nat × List Nat) : Nat → RR → RR
  | 0, s => s
  | n + 1, s => rrRunPolls (fun k => orc (k + 1)) n (rrPoll (rwork s + 1) (withOracles s (orc 0))).2

theorem rrRunPolls_executor : Executor (fun o s => (rrPoll (rwork s + 1) (withOracles s o)).2) rrRunPolls :=
  ⟨fun _ _ => rfl, fun _ _ _ => rfl⟩

theorem rrRunPolls_unblocks_rpat (s : RR) (orc : Nat → List Nat × List Nat) :
    ∃ n, n ≤ rpat s ∧
      (rrPoll (rwork (rrRunPolls orc n s) + 1) (withOracles (rrRunPolls orc n s) (orc n))).1.isBlocked = false :=
  (rrRunPolls_executor.settles (fun o s => (rrPoll_effect (rwork s + 1) (withOracles s o)).2.2) s orc).imp
    fun _ h => ⟨h.1, Bool.eq_false_iff.mpr h.2⟩

theorem rrRunPolls_unblocks (s : RR) (orc : Nat → List Nat × List Nat) :
    ∃ n, n ≤ rmeasure s ∧
      (rrPoll (rwork (rrRunPolls orc n s) + 1) (withOracles (rrRunPolls orc n s) (orc n))).1.isBlocked = false :=
  (rrRunPolls_unblocks_rpat s orc).imp fun _ h => ⟨Nat.le_trans h.1 (rmeasure_eq s ▸ Nat.le_add_left _ _), h.2⟩

end Selium.Route
