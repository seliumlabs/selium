import SeliumModel.Lemmas.Scan
import SeliumModel.Lemmas.ReqRepBlocks
/-
C09 / C16, request/reply half: what holds when a poll returns without being blocked on one particular sink (`Parked`).
Ending `idle` or `waiting`: the registration channel is drained and holds the waker. Ending `waiting` (both sides
reported Pending, or are absent): nothing handed to a requestor's sink or to the bound replier's sink is left unflushed,
and no reply is held back. Ending `done` (shutdown): every requestor's sink is flushed, and that is all: a reply still
buffered stays buffered, and nothing is said of the replier's sink.
-/
namespace Selium.Route
open Selium.Sink

def Drained (s : RR) : Prop := s.queue = [] ∧ s.handleReg = true

def Flushed (s : RR) : Prop :=
  (∀ k ∈ s.sinks, k.flushed = k.got.length) ∧ s.bufRep = none ∧
  ∀ r, s.server = some r → r.sink.flushed = r.sink.got.length

def SinksFlushed (s : RR) : Prop := ∀ k ∈ s.sinks, k.flushed = k.got.length

def Parked (o : ROutcome) (t : RR) : Prop :=
  (o = .idle ∨ o = .waiting → Drained t) ∧ (o = .waiting → Flushed t) ∧ (o = .done → SinksFlushed t)

theorem flushRouter_flushed (s : RR) (h : (flushRouter s).1 = .ready) : SinksFlushed (flushRouter s).2 :=
  (pickLoop_scan _ _ _ s.ko s.sinks).flushed h

theorem Parked.busy {o : ROutcome} {t : RR} (h : o ≠ .idle ∧ o ≠ .waiting ∧ o ≠ .done := by decide) : Parked o t :=
  ⟨fun ho => ho.elim (absurd · h.1) (absurd · h.2.1), (absurd · h.2.1), (absurd · h.2.2)⟩

/-! `RetBusy`, `RetFlushed`: the flushing part of `Parked` as predicates on one block's result, `waiting` and `done` treated
    alike. No proof in this library goes through them (`iter_parked` works with `Parked`). `RetFlushed` asks `Flushed` after
    `done` too; that is more than `Parked` promises there (`SinksFlushed`), and block H does not satisfy it: it returns
    `done` with a reply still buffered. -/

def RetBusy (f : Flow) : Prop :=
  match f with
  | .ret o _ => o ≠ .waiting ∧ o ≠ .done
  | _ => True

def RetFlushed (f : Flow) : Prop :=
  match f with
  | .ret o s' => (o = .waiting ∨ o = .done) → Flushed s'
  | _ => True

theorem RetBusy.toFlushed {f : Flow} (h : RetBusy f) : RetFlushed f := by
  cases f with
  | ret o s' => exact fun ho => ho.elim (absurd · h.1) (absurd · h.2)
  | next s' => trivial
  | again s' => trivial

/-- `waiting` is only returned at the end of an iteration (block G), after both flushes have completed -/
theorem partG_waiting (s : RR) (hd : Drained s) (hb : s.bufRep = none) :
    (partG s).Post Parked (fun _ => True) (fun _ => True) := by
  fun_cases partG s
  case case1 => exact .busy
  case case2 hf r hsv =>
    have hsinks := flushRouter_flushed s hf
    fun_cases flushReplier (flushRouter s).2 r fun s' => .ret .waiting s'
    · exact .busy
    · exact ⟨fun _ => hd, fun _ => ⟨hsinks, hb, nofun⟩, nofun⟩
    · refine ⟨fun _ => hd, fun _ => ⟨hsinks, hb, fun r' hr' => ?_⟩, nofun⟩
      cases hr'
      exact r.sink.afterFlush_flushed ‹_›
  case case3 hf hsv =>
    exact ⟨fun _ => hd, fun _ => ⟨flushRouter_flushed s hf, hb, fun r hr => by rw [hsv] at hr; cases hr⟩, nofun⟩
  case case4 => trivial

/-- Blocks A, B, D, E, F only return blocked on a sink. Block H falls through, or returns `idle`, only with the channel
    drained and holding the waker, and the blocks after it do not touch the channel. When the channel is closed and the
    requestor sinks flush, block H returns `done` (the bound replier's sink is not flushed: the code calls only
    `shutdown_stream` on its stream there). Block G is reached with no reply held back. -/
theorem iter_parked (s : RR) : (iter s).Post Parked (fun _ => True) (fun _ => True) := by
  apply iter_post s (N₁ := fun _ => True) (N₂ := fun _ => True) (N₃ := Drained) (N₄ := Drained)
    (N₅ := fun t => Drained t ∧ t.bufRep = none) (N₆ := fun t => Drained t ∧ t.bufRep = none)
  · exact partA_post _ fun _ _ _ _ _ => ⟨.busy, trivial⟩
  · exact fun t _ => partB_post t fun _ _ _ => ⟨.busy, trivial, trivial⟩
  · intro t _
    fun_cases partH t
    case case1 => trivial
    case case2 => exact .busy
    case case3 hf => exact ⟨nofun, nofun, fun _ => flushRouter_flushed t hf⟩
    case case4 hq _ _ => exact ⟨fun _ => ⟨hq, rfl⟩, nofun, nofun⟩
    case case5 hq _ _ => exact ⟨hq, rfl⟩
  · exact fun t ht => partD_post t fun _ _ _ _ _ _ _ => ⟨.busy, .busy, ht⟩
  · intro t ht
    fun_cases partE t
    · exact ⟨ht, ‹_›⟩
    · exact .busy
    · exact ⟨ht, rfl⟩
  · exact fun t ht => partF_post t fun _ _ _ _ _ _ _ _ _ _ => ⟨.busy, .busy, ht⟩
  · exact fun t ht => partG_waiting t ht.1 ht.2

theorem rrPoll_parked (fuel : Nat) (s : RR) : Parked (rrPoll fuel s).1 (rrPoll fuel s).2 :=
  rrPoll_post (I := fun _ => True) (fun t _ => iter_parked t) (fun _ _ => .busy) fuel s trivial

theorem rrPoll_flushed (fuel : Nat) (s : RR) :
    ((rrPoll fuel s).1 = .waiting → Flushed (rrPoll fuel s).2) ∧
    ((rrPoll fuel s).1 = .done → ∀ k ∈ (rrPoll fuel s).2.sinks, k.flushed = k.got.length) := (rrPoll_parked fuel s).2

end Selium.Route
