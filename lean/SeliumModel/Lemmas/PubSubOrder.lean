import SeliumModel.Lemmas.PubSubRun
import SeliumModel.Lemmas.StreamMap
/-
Per-publisher order for the pub/sub router: the items accepted from one publisher stream are, in the order accepted, a
prefix of what that publisher sent; `StreamMap`'s random start, its `swap_remove` reshuffling and any number of Pending
answers do not matter. The argument is a ledger: `remaining es sid` is what the stream with id `sid` in the map still has
to yield (nothing if there is no such stream). A silent step of the map (`Sil`: Pending answers, errors, ended streams
removed) leaves every line as it is, a stream handing over an item moves the head of its line to `accepted`, an adoption
opens a line: so `accepted from sid ++ remaining sid = what sid came with` (`LedgerC.balance`) holds throughout, for every
`sid` at once. What holds of any stream, of a live one and of one that is gone (`LedgerC.accepted_prefix`, `.live`, `.gone`)
is read off it.
-/
namespace Selium.Route
open Selium.Sink
variable {α : Type}

def itemsOf : List (SAns α) → List α
  | [] => []
  | .item x :: q => x :: itemsOf q
  | .err :: q => itemsOf q
  | .pending :: q => itemsOf q

/-- the accepted items that came from stream `sid`, in the order accepted -/
def fromPub : List α → List Nat → Nat → List α
  | x :: acc, i :: src, sid => if i = sid then x :: fromPub acc src sid else fromPub acc src sid
  | _, _, _ => []

theorem fromPub_append (a1 a2 : List α) (s1 s2 : List Nat) (sid : Nat) (h : s1.length = a1.length) :
    fromPub (a1 ++ a2) (s1 ++ s2) sid = fromPub a1 s1 sid ++ fromPub a2 s2 sid := by
  induction a1 generalizing s1 with
  | nil => cases s1 with
    | nil => rfl
    | cons => cases h
  | cons a a1 ih => cases s1 with
    | nil => cases h
    | cons j s1 =>
      rw [List.cons_append, List.cons_append, fromPub, fromPub, ih s1 (Nat.succ.inj h)]
      by_cases e : j = sid
      · rw [if_pos e, if_pos e]; rfl
      · rw [if_neg e, if_neg e]

theorem fromPub_snoc (acc : List α) (src : List Nat) (x : α) (i sid : Nat) (h : src.length = acc.length) :
    fromPub (acc ++ [x]) (src ++ [i]) sid = fromPub acc src sid ++ (if i = sid then [x] else []) := by
  rw [fromPub_append _ _ _ _ _ h]
  rfl

def remaining : List (StreamSt α) → Nat → List α
  | [], _ => []
  | st :: es, sid => if st.id = sid then itemsOf st.script else remaining es sid

theorem remaining_of_not_mem {es : List (StreamSt α)} {sid : Nat} (h : ∀ st ∈ es, st.id ≠ sid) :
    remaining es sid = [] := by
  induction es with
  | nil => rfl
  | cons a l ih =>
    rw [remaining, if_neg (h a (List.mem_cons_self ..)), ih fun st hst => h st (List.mem_cons_of_mem _ hst)]

theorem remaining_of_mem {es : List (StreamSt α)} (hn : (es.map (·.id)).Nodup) {st : StreamSt α} (h : st ∈ es) :
    remaining es st.id = itemsOf st.script := by
  induction es with
  | nil => cases h
  | cons a l ih =>
    rw [remaining]
    rcases List.mem_cons.mp h with rfl | h
    · exact if_pos rfl
    · rw [if_neg fun e => (List.nodup_cons.mp hn).1 (List.mem_map.mpr ⟨st, h, e.symm⟩), ih (List.nodup_cons.mp hn).2 h]

theorem remaining_perm {es es' : List (StreamSt α)} (hp : es.Perm es') (hn : (es.map (·.id)).Nodup) (sid : Nat) :
    remaining es sid = remaining es' sid := by
  by_cases h : ∃ st ∈ es, st.id = sid
  · obtain ⟨st, hm, rfl⟩ := h
    rw [remaining_of_mem hn hm, remaining_of_mem ((hp.map _).nodup_iff.mp hn) (hp.mem_iff.mp hm)]
  · rw [remaining_of_not_mem fun st hm e => h ⟨st, hm, e⟩, remaining_of_not_mem fun st hm e => h ⟨st, hp.mem_iff.mpr hm, e⟩]

theorem map_id_set {es : List (StreamSt α)} {idx : Nat} {st : StreamSt α} (h : es[idx]? = some st) (st' : StreamSt α)
    (hid : st'.id = st.id) : (es.set idx st').map (·.id) = es.map (·.id) := by
  obtain ⟨hi, rfl⟩ := List.getElem?_eq_some_iff.mp h
  have : (es.map (·.id))[idx]'(by rwa [List.length_map]) = es[idx].id := List.getElem_map ..
  rw [List.map_set, hid, ← this, List.set_getElem_self]

theorem remaining_set {es : List (StreamSt α)} (hn : (es.map (·.id)).Nodup) {idx : Nat} {st : StreamSt α}
    (h : es[idx]? = some st) (st' : StreamSt α) (hid : st'.id = st.id) (sid : Nat) :
    remaining (es.set idx st') sid = if st.id = sid then itemsOf st'.script else remaining es sid := by
  rw [remaining_perm (set_perm_cons_eraseIdx (List.getElem?_eq_some_iff.mp h).1 st') (by rwa [map_id_set h st' hid]),
    remaining_perm (perm_cons_eraseIdx h) hn, remaining, remaining, hid]
  by_cases e : st.id = sid
  · rw [if_pos e, if_pos e]
  · rw [if_neg e, if_neg e, if_neg e]

/-- a silent step of the map: a rearrangement that removes ended streams and pops non-item answers -/
def Sil (es es' : List (StreamSt α)) : Prop :=
  ((es.map (·.id)).Nodup → (es'.map (·.id)).Nodup) ∧
  (∀ st' ∈ es', ∃ st ∈ es, st.id = st'.id ∧ itemsOf st'.script = itemsOf st.script) ∧
  -- an entry only goes away when it has nothing left to yield (the stream has ended)
  ((es.map (·.id)).Nodup → ∀ st ∈ es, (∀ st' ∈ es', st'.id ≠ st.id) → itemsOf st.script = [])

theorem sil_iff {es es' : List (StreamSt α)} : Sil es es' ↔
    (∀ st' ∈ es', ∃ st ∈ es, st.id = st'.id ∧ itemsOf st'.script = itemsOf st.script) ∧
    ((es.map (·.id)).Nodup → (es'.map (·.id)).Nodup ∧ ∀ sid, remaining es' sid = remaining es sid) := by
  constructor
  · rintro ⟨h1, h2, h3⟩
    refine ⟨h2, fun hn => ⟨h1 hn, fun sid => ?_⟩⟩
    by_cases h' : ∃ st' ∈ es', st'.id = sid
    · obtain ⟨st', hm', rfl⟩ := h'
      obtain ⟨st, hm, hi, hs⟩ := h2 st' hm'
      rw [remaining_of_mem (h1 hn) hm', ← hi, remaining_of_mem hn hm, hs]
    · have h' : ∀ st' ∈ es', st'.id ≠ sid := fun st' hm' e => h' ⟨st', hm', e⟩
      rw [remaining_of_not_mem h']
      by_cases h : ∃ st ∈ es, st.id = sid
      · obtain ⟨st, hm, rfl⟩ := h
        rw [remaining_of_mem hn hm, h3 hn st hm h']
      · rw [remaining_of_not_mem fun st hm e => h ⟨st, hm, e⟩]
  · rintro ⟨h2, h⟩
    exact ⟨fun hn => (h hn).1, h2, fun hn st hm hno => by
      rw [← remaining_of_mem hn hm, ← (h hn).2, remaining_of_not_mem hno]⟩

theorem Sil.refl (es : List (StreamSt α)) : Sil es es :=
  sil_iff.mpr ⟨fun st h => ⟨st, h, rfl, rfl⟩, fun hn => ⟨hn, fun _ => rfl⟩⟩

theorem Sil.trans {a b c : List (StreamSt α)} (h1 : Sil a b) (h2 : Sil b c) : Sil a c := by
  rw [sil_iff] at h1 h2 ⊢
  refine ⟨fun st' hst' => ?_, fun hn => ⟨(h2.2 (h1.2 hn).1).1, fun sid => ((h2.2 (h1.2 hn).1).2 sid).trans ((h1.2 hn).2 sid)⟩⟩
  obtain ⟨st1, hm1, hi1, hs1⟩ := h2.1 st' hst'
  obtain ⟨st0, hm0, hi0, hs0⟩ := h1.1 st1 hm1
  exact ⟨st0, hm0, hi0.trans hi1, hs1.trans hs0⟩

theorem Sil.set (es : List (StreamSt α)) (idx : Nat) (st st' : StreamSt α) (h : es[idx]? = some st)
    (hid : st'.id = st.id) (hit : itemsOf st'.script = itemsOf st.script) : Sil es (es.set idx st') := by
  refine sil_iff.mpr ⟨fun x hx => ?_, fun hn => ⟨by rwa [map_id_set h st' hid], fun sid => ?_⟩⟩
  · rcases List.mem_or_eq_of_mem_set hx with hm | rfl
    · exact ⟨x, hm, rfl, rfl⟩
    · exact ⟨st, List.mem_of_getElem? h, hid.symm, hit⟩
  · rw [remaining_set hn h st' hid]
    by_cases e : st.id = sid
    · rw [if_pos e, hit, ← e, remaining_of_mem hn (List.mem_of_getElem? h)]
    · exact if_neg e

theorem Sil.swapRemove (es : List (StreamSt α)) (idx : Nat) (h : idx < es.length)
    (hend : ∀ st, es[idx]? = some st → itemsOf st.script = []) : Sil es (swapRemove es idx) := by
  have hget := List.getElem?_eq_getElem h
  have hp := perm_cons_swapRemove es idx _ hget
  refine sil_iff.mpr ⟨fun st' hst' => ⟨st', hp.mem_iff.mpr (List.mem_cons_of_mem _ hst'), rfl, rfl⟩, fun hn => ?_⟩
  have hn' := List.nodup_cons.mp ((hp.map (·.id)).nodup_iff.mp hn)
  refine ⟨hn'.2, fun sid => ?_⟩
  rw [remaining_perm hp hn sid, remaining]
  by_cases e : es[idx].id = sid
  · -- the line of the removed entry was empty, and no other entry has its id
    rw [if_pos e, hend _ hget]
    exact remaining_of_not_mem fun st' hst' e' => hn'.1 (List.mem_map.mpr ⟨st', hst', e'.trans e.symm⟩)
  · exact (if_neg e).symm

/-- One `poll_next` of the map: a silent rearrangement, optionally followed by one stream handing over the item
    at the head of its script. -/
theorem smLoop_spec (n : Nat) : ∀ (start idx : Nat) (es : List (StreamSt α)),
    ∃ mid, Sil es mid ∧
      (((smLoop n start idx es).2.1 = mid ∧ ∀ sid x, (smLoop n start idx es).1 ≠ SMRes.item sid x) ∨
       (∃ i st q x, mid[i]? = some st ∧ st.script = .item x :: q ∧ (smLoop n start idx es).1 = .item st.id x ∧
          (smLoop n start idx es).2.1 = mid.set i { st with script := q, taken := st.taken ++ [x] })) := by
  intro start idx es
  fun_induction smLoop n start idx es with
  | case1 _ _ es | case2 _ _ _ es =>
    exact ⟨es, Sil.refl es, Or.inl ⟨rfl, fun sid x => by dsimp only; split <;> exact fun e => nomatch e⟩⟩
  | case3 n start idx es st h x q hs => exact ⟨es, Sil.refl es, Or.inr ⟨idx, st, q, x, h, hs, rfl, rfl⟩⟩
  | case4 n start idx es st h q hs =>
    exact ⟨_, Sil.set es idx st { st with script := q } h rfl (by rw [hs]; rfl), Or.inl ⟨rfl, fun _ _ e => nomatch e⟩⟩
  | case5 n start idx es st h q hs ih =>
    obtain ⟨mid, hsil, hres⟩ := ih
    exact ⟨mid, (Sil.set es idx st { st with script := q } h rfl (by rw [hs]; rfl)).trans hsil, hres⟩
  | case6 n start idx es st h hs ih =>
    obtain ⟨mid, hsil, hres⟩ := ih
    refine ⟨mid, (Sil.swapRemove es idx (List.getElem?_eq_some_iff.mp h).1 fun st' hst' => ?_).trans hsil, hres⟩
    rw [h] at hst'; cases hst'; rw [hs]; rfl

/-- per-publisher bookkeeping: `src` tags every accepted item; live streams have distinct ids below `nextStream`;
    what was accepted from a live stream followed by what its script still holds is what it was adopted with;
    and for every stream, live or gone, what was accepted from it is a prefix of what it was adopted with.
    These are the ledger's facts as one tuple, a result of its own (`exec_pub`: it holds of every state reached); the
    proofs in this library read `LedgerC.accepted_prefix`, `.live`, `.gone` instead. -/
def PubInvC (streams : List (StreamSt α)) (nextStream : Nat) (accepted : List α) (src : List Nat)
    (scripts : List (List (SAns α))) : Prop :=
  src.length = accepted.length ∧ scripts.length = nextStream ∧
  (streams.map (·.id)).Nodup ∧ (∀ st ∈ streams, st.id < nextStream) ∧
  (∀ st ∈ streams, fromPub accepted src st.id ++ itemsOf st.script = itemsOf (scripts[st.id]?.getD [])) ∧
  (∀ sid, fromPub accepted src sid <+: itemsOf (scripts[sid]?.getD [])) ∧
  -- a stream that was adopted and is gone has ended, and everything it yielded was accepted
  (∀ sid, sid < nextStream → (∀ st ∈ streams, st.id ≠ sid) → fromPub accepted src sid = itemsOf (scripts[sid]?.getD []))

def PubInv (s : PS α) : Prop := PubInvC s.streams s.nextStream s.accepted s.src s.scripts

/-- the ledger, which is the invariant the proofs carry. `balance` is for every `sid`: for one never adopted all three
    lists are empty. The other fields are what keeps it: `src` tags every accepted item, a script is recorded for each id
    given out, the live streams have distinct ids below `nextStream`.
    (The suffix `C`, here as in `PubInvC` and `InvC`, is for "on components": the statement takes the fields a step
    changes and leaves the rest of the state out; `Ledger`, `PubInv`, `Inv` apply it to a state.) -/
structure LedgerC (streams : List (StreamSt α)) (nextStream : Nat) (accepted : List α) (src : List Nat)
    (scripts : List (List (SAns α))) : Prop where
  tagged : src.length = accepted.length
  count : scripts.length = nextStream
  nodup : (streams.map (·.id)).Nodup
  bound : ∀ st ∈ streams, st.id < nextStream
  balance : ∀ sid, fromPub accepted src sid ++ remaining streams sid = itemsOf (scripts[sid]?.getD [])

namespace LedgerC
variable {es es' : List (StreamSt α)} {n : Nat} {acc : List α} {src : List Nat} {scripts : List (List (SAns α))}

theorem accepted_prefix (h : LedgerC es n acc src scripts) (sid : Nat) :
    fromPub acc src sid <+: itemsOf (scripts[sid]?.getD []) := ⟨_, h.balance sid⟩

theorem live (h : LedgerC es n acc src scripts) {st : StreamSt α} (hst : st ∈ es) :
    fromPub acc src st.id ++ itemsOf st.script = itemsOf (scripts[st.id]?.getD []) := by
  rw [← remaining_of_mem h.nodup hst]
  exact h.balance _

/-- `sid` need not have been adopted: of a stream that never was, nothing was accepted and no script is recorded -/
theorem gone (h : LedgerC es n acc src scripts) {sid : Nat} (hno : ∀ st ∈ es, st.id ≠ sid) :
    fromPub acc src sid = itemsOf (scripts[sid]?.getD []) := by
  rw [← h.balance sid, remaining_of_not_mem hno, List.append_nil]

theorem pubInvC (h : LedgerC es n acc src scripts) : PubInvC es n acc src scripts :=
  ⟨h.tagged, h.count, h.nodup, h.bound, fun _ => h.live, h.accepted_prefix, fun _ _ => h.gone⟩

theorem sil (h : LedgerC es n acc src scripts) (hs : Sil es es') : LedgerC es' n acc src scripts := by
  rw [sil_iff] at hs
  refine ⟨h.tagged, h.count, (hs.2 h.nodup).1, fun st' hst' => ?_, fun sid => by rw [(hs.2 h.nodup).2]; exact h.balance sid⟩
  obtain ⟨st, hm, hi, _⟩ := hs.1 st' hst'
  rw [← hi]; exact h.bound st hm

theorem item {i : Nat} {st st' : StreamSt α} {x : α} (h : LedgerC es n acc src scripts)
    (hi : es[i]? = some st) (hid : st'.id = st.id) (hq : st.script = .item x :: st'.script) :
    LedgerC (es.set i st') n (acc ++ [x]) (src ++ [st.id]) scripts := by
  have hst := List.mem_of_getElem? hi
  refine ⟨by rw [List.length_append, List.length_append, h.tagged]; rfl, h.count, by rw [map_id_set hi st' hid]; exact h.nodup,
    fun st'' hst'' => ?_, fun sid => ?_⟩
  · rcases List.mem_or_eq_of_mem_set hst'' with hm | rfl
    · exact h.bound st'' hm
    · rw [hid]; exact h.bound st hst
  · -- the item moves from the head of `st`'s line to the end of what was accepted from it
    rw [fromPub_snoc _ _ _ _ _ h.tagged, remaining_set h.nodup hi st' hid, ← h.balance sid]
    by_cases e : st.id = sid
    · rw [if_pos e, if_pos e, ← e, remaining_of_mem h.nodup hst, hq, List.append_assoc]; rfl
    · rw [if_neg e, if_neg e, List.append_nil]

theorem adopt (h : LedgerC es n acc src scripts) (sc : List (SAns α)) :
    LedgerC (es ++ [{ id := n, script := sc }]) (n + 1) acc src (scripts ++ [sc]) := by
  have hp := List.perm_append_singleton ({ id := n, script := sc } : StreamSt α) es
  have hfresh : ∀ st ∈ es, st.id ≠ n := fun st hst => Nat.ne_of_lt (h.bound st hst)
  have hn : ((es ++ [({ id := n, script := sc } : StreamSt α)]).map (·.id)).Nodup := by
    rw [(hp.map _).nodup_iff, List.map_cons, List.nodup_cons]
    exact ⟨fun hm => by obtain ⟨st, hst, e⟩ := List.mem_map.mp hm; exact hfresh st hst e, h.nodup⟩
  refine ⟨h.tagged, by rw [List.length_append, h.count]; rfl, hn, fun st hst => ?_, fun sid => ?_⟩
  · rcases List.mem_append.mp hst with hm | hm
    · exact Nat.lt_succ_of_lt (h.bound st hm)
    · rw [List.mem_singleton.mp hm]; exact Nat.lt_succ_self n
  · -- the new line is `n`'s, and `n` is where its script is recorded; no other line and no other script moves
    rw [remaining_perm hp hn]
    dsimp only [remaining]
    have hb := h.balance sid
    rcases Nat.lt_trichotomy sid n with hlt | rfl | hgt
    · rw [if_neg (Nat.ne_of_gt hlt), hb, List.getElem?_append_left (h.count ▸ hlt)]
    · -- nothing was accepted from `n` yet, since no script was recorded for it
      rw [List.getElem?_eq_none (Nat.le_of_eq h.count), remaining_of_not_mem hfresh] at hb
      rw [if_pos rfl, (List.append_eq_nil_iff.mp hb).1, List.getElem?_append_right (Nat.le_of_eq h.count), h.count,
        Nat.sub_self]
      rfl
    · rw [if_neg (Nat.ne_of_lt hgt), hb, List.getElem?_eq_none (h.count ▸ Nat.le_of_lt hgt),
        List.getElem?_eq_none (by rw [List.length_append, h.count]; exact hgt)]

theorem poll {k start idx : Nat} {r : SMRes α} {evs : List (Ev α)} (h : LedgerC es n acc src scripts)
    (hsm : smLoop k start idx es = (r, es', evs)) :
    (∀ sid x, r = .item sid x → LedgerC es' n (acc ++ [x]) (src ++ [sid]) scripts) ∧
    ((∀ sid x, r ≠ .item sid x) → LedgerC es' n acc src scripts) := by
  obtain ⟨mid, hsil, hres⟩ := smLoop_spec k start idx es
  rw [hsm] at hres
  rcases hres with ⟨he, hno⟩ | ⟨j, st, q, x, hj, hq, hr, hes⟩
  · subst he
    exact ⟨fun sid x e => absurd e (hno sid x), fun _ => h.sil hsil⟩
  · refine ⟨fun sid x' e => ?_, fun hni => absurd hr (hni _ _)⟩
    cases hr.symm.trans e
    obtain rfl : es' = _ := hes
    exact (h.sil hsil).item hj rfl hq

end LedgerC

def Ledger (s : PS α) : Prop := LedgerC s.streams s.nextStream s.accepted s.src s.scripts

theorem Ledger.pubInv {s : PS α} (h : Ledger s) : PubInv s := h.pubInvC

theorem flushSinks_pub (s : PS α) (h : PubInv s) : PubInv (flushSinks s).2.1 := h

theorem Reach.ledger {n : Nat} {s t : PS α} (hr : Reach n s t) (h : Ledger s) : Ledger t := by
  induction hr with
  | refl => exact h
  | ready _ ih | send _ _ _ ih | flush _ ih | reg _ ih => exact ih h
  | adopt sock q _ _ _ ih =>
    apply ih
    cases sock with
    | stream sc => exact h.adopt sc
    | sink c => exact h
  | item i sid x es evs _ _ _ hsm _ ih => exact ih ((h.poll hsm).1 sid x rfl)
  | polled i r es evs _ _ hsm hni _ ih => exact ih ((h.poll hsm).2 hni)

theorem pollFuel_ledger (fuel : Nat) (o : List Nat) (s : PS α) (h : Ledger s) : Ledger (pollFuel fuel o s).2.1 :=
  (pollFuel_reach fuel o s).elim fun _ hr => hr.ledger h

theorem exec_ledger (evs : List (Event α)) : Ledger (exec evs) :=
  exec_invariant ⟨rfl, rfl, List.nodup_nil, fun _ h => absurd h List.not_mem_nil, fun _ => rfl⟩ (fun _ _ _ _ h => h)
    (fun _ _ _ hr => hr.ledger) evs

theorem exec_pub (evs : List (Event α)) : PubInv (exec evs) := (exec_ledger evs).pubInv

end Selium.Route
