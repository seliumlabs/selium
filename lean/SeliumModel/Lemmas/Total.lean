import SeliumModel.Wire.Frame
import SeliumModel.Lemmas.Basic

/-! Totality (C06): the modelled decoders never reach a panic, for any input bytes. -/
namespace Selium
open Selium.Bincode

namespace Bincode

theorem takeLe_no_panic (w : Nat) (b : Bytes) (s : String) : takeLe w b ≠ .panic s :=
  Res.ite_ne_panic nofun nofun

theorem takeBytes_no_panic (n : Nat) (b : Bytes) (s : String) : takeBytes n b ≠ .panic s :=
  Res.ite_ne_panic nofun nofun

theorem repeatDec_no_panic (f : Bytes → D Val) (hf : ∀ b s, f b ≠ .panic s) (n : Nat) (b : Bytes) (s : String) :
    repeatDec f n b ≠ .panic s := by
  -- the two arms that return a panic: `case4` passes on one from the rest of the list, `case6` one from `f`
  fun_induction repeatDec f n b generalizing s with
  | case4 _ _ _ _ _ s' h' ih => exact absurd h' (ih s')
  | case6 _ b s' h' => exact absurd h' (hf b s')
  | _ => simp

theorem repeatDec2_no_panic (f g : Bytes → D Val) (hf : ∀ b s, f b ≠ .panic s) (hg : ∀ b s, g b ≠ .panic s)
    (n : Nat) (b : Bytes) (s : String) : repeatDec2 f g n b ≠ .panic s := by
  -- `case4`: the rest of the list panics; `case6`: `g` does; `case8`: `f` does
  fun_induction repeatDec2 f g n b generalizing s with
  | case4 _ _ _ _ _ _ _ _ s' h' ih => exact absurd h' (ih s')
  | case6 _ _ _ b1 _ s' h' => exact absurd h' (hg b1 s')
  | case8 _ b s' h' => exact absurd h' (hf b s')
  | _ => simp

theorem dec_no_panic (t : Ty) : ∀ (b : Bytes) (s : String), dec t b ≠ .panic s := by
  -- the `panic` arms of `dec` only pass on a panic of `takeLe` / `takeBytes` (which have none) or of a decoder of a
  -- smaller schema
  induction t using Ty.rec
    (motive_2 := fun ts => (∀ b s, decFields ts b ≠ .panic s) ∧ ∀ i b s, decVariant ts i b ≠ .panic s) with
  | u8 | u32 | u64 =>
    intro b s; unfold dec; split <;> simp
    rename_i s' h'; exact absurd h' (takeLe_no_panic _ _ _)
  | str =>
    intro b s; unfold dec; split
    · split
      · exact Res.ite_ne_panic nofun nofun
      · simp
      · rename_i s' h'; exact absurd h' (takeBytes_no_panic _ _ _)
    · simp
    · rename_i s' h'; exact absurd h' (takeLe_no_panic _ _ _)
  | bytes =>
    intro b s; unfold dec; split
    · split
      · simp
      · simp
      · rename_i s' h'; exact absurd h' (takeBytes_no_panic _ _ _)
    · simp
    · rename_i s' h'; exact absurd h' (takeLe_no_panic _ _ _)
  | opt t ih =>
    intro b s; unfold dec; split
    · refine Res.ite_ne_panic nofun (Res.ite_ne_panic ?_ nofun)
      split
      · simp
      · simp
      · rename_i s' h'; exact absurd h' (ih _ s')
    · simp
    · rename_i s' h'; exact absurd h' (takeLe_no_panic _ _ _)
  | vec t ih =>
    intro b s; unfold dec; split
    · split
      · simp
      · simp
      · rename_i s' h'; exact absurd h' (repeatDec_no_panic (dec t) ih _ _ s')
    · simp
    · rename_i s' h'; exact absurd h' (takeLe_no_panic _ _ _)
  | map k v ihk ihv =>
    intro b s; unfold dec; split
    · split
      · simp
      · simp
      · rename_i s' h'; exact absurd h' (repeatDec2_no_panic (dec k) (dec v) ihk ihv _ _ s')
    · simp
    · rename_i s' h'; exact absurd h' (takeLe_no_panic _ _ _)
  | struct ts ih =>
    intro b s; unfold dec; split
    · simp
    · simp
    · rename_i s' h'; exact absurd h' (ih.1 b s')
  | «enum» ts ih =>
    intro b s; unfold dec; split
    · split
      · simp
      · simp
      · rename_i s' h'; exact absurd h' (ih.2 _ _ s')
    · simp
    · rename_i s' h'; exact absurd h' (takeLe_no_panic _ _ _)
  | nil => exact ⟨fun _ _ => nofun, fun _ _ _ => nofun⟩
  | cons t ts iht ihts =>
    refine ⟨fun b s => ?_, fun i b s => ?_⟩
    · unfold decFields; split
      · split
        · simp
        · simp
        · rename_i s' h'; exact absurd h' (ihts.1 _ s')
      · simp
      · rename_i s' h'; exact absurd h' (iht b s')
    · cases i with
      | zero => rw [decVariant]; exact iht b s
      | succ i => rw [decVariant]; exact ihts.2 i b s
end Bincode

namespace Wire
open Selium.Gen.Frame

theorem tryFrom_no_panic (ty : Nat) (b : Bytes) (s : String) : tryFrom ty b ≠ .panic s := by
  unfold tryFrom
  split
  · simp
  · split
    · split
      · simp
      · simp
      · rename_i s' h; exact absurd h (dec_no_panic _ _ _)
    · simp
    · simp

theorem decode_no_panic (src : Bytes) (s : String) : decode src ≠ .panic s := by
  fun_cases decode src <;> intro h <;> cases h
  exact tryFrom_no_panic _ _ _ ‹_›

end Wire
end Selium
