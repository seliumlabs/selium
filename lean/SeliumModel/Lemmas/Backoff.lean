import SeliumModel.Backoff

namespace Selium.Backoff

theorem checkedMul128_spec (a b : Nat) :
    checkedMul128 a b = if a * b ≤ U128MAX then some (a * b) else none := rfl

theorem checkedPow128_spec (b e : Nat) :
    checkedPow128 b e = if b ^ e ≤ U128MAX then some (b ^ e) else none := by
  induction e with
  | zero => rfl
  | succ e ih =>
    rw [checkedPow128, ih]
    by_cases h : b ^ e ≤ U128MAX
    · rw [if_pos h]; rfl
    · -- once a power is too large so is the next one: the base is not 0
      rw [if_neg h]
      refine (if_neg fun h' => h ?_).symm
      rcases Nat.eq_zero_or_pos b with rfl | hb
      · cases e with
        | zero => decide
        | succ e => exact Nat.zero_pow (Nat.succ_pos e) ▸ Nat.zero_le _
      · exact Nat.le_trans (Nat.pow_le_pow_right hb (Nat.le_succ e)) h'

/-- `Duration::MAX` is one nanosecond short of `u64::MAX + 1` seconds -/
theorem div_le_iff_le_DMAX (n : Nat) : n / NANOS ≤ U64MAX ↔ n ≤ DMAX :=
  Nat.lt_succ_iff.symm.trans ((Nat.div_lt_iff_lt_mul (by decide)).trans (Nat.lt_succ_iff (n := DMAX)))

theorem DMAX_le_U128MAX : DMAX ≤ U128MAX := by decide

theorem satMul_spec (d m : Nat) : satMul d m = min (d * m) DMAX := by
  rw [satMul, checkedMul128, Nat.min_def]
  by_cases h : d * m ≤ U128MAX
  · simp only [if_pos h, div_le_iff_le_DMAX, Nat.div_add_mod']
  · rw [if_neg h]
    exact (if_neg fun h' => h (Nat.le_trans h' DMAX_le_U128MAX)).symm

theorem rawDelay_spec (c : Cfg) (cur : Nat) (hstep : c.step ≤ DMAX) :
    rawDelay c cur = min (law c cur) DMAX := by
  unfold rawDelay law
  cases c.strategy with
  | linear => exact satMul_spec ..
  | constant => exact (Nat.min_eq_left hstep).symm
  | exponential f =>
    simp only [checkedPow128_spec]
    by_cases h : f ^ (cur - 1) ≤ U128MAX
    · rw [if_pos h]; exact satMul_spec ..
    · rw [if_neg h]
      by_cases h0 : c.step = 0
      · rw [if_pos h0, h0, Nat.zero_mul, Nat.zero_min]
      · -- the power alone is beyond `u128`, so is its product with a step of at least 1
        rw [if_neg h0]
        exact (Nat.min_eq_right (Nat.le_trans DMAX_le_U128MAX (Nat.le_trans (Nat.le_of_lt (Nat.lt_of_not_le h))
          (Nat.le_mul_of_pos_left _ (Nat.pos_of_ne_zero h0))))).symm

/-- the attempt handed out at counter value `cur` -/
def attemptAt (c : Cfg) (cur : Nat) : Attempt :=
  { duration := clamp c (rawDelay c cur), attemptNum := cur % (U32MAX + 1), maxAttempts := c.maxAttempts }

theorem next_of_le (c : Cfg) (cur : Nat) (h : cur ≤ c.maxAttempts) : next c cur = some (attemptAt c cur, cur + 1) :=
  if_neg (Nat.not_lt.2 h)

theorem next_of_gt (c : Cfg) (cur : Nat) (h : c.maxAttempts < cur) : next c cur = none := if_pos h

theorem take_eq (c : Cfg) (n cur : Nat) :
    take c n cur = (List.range' cur (min n (c.maxAttempts + 1 - cur))).map (attemptAt c) := by
  induction n generalizing cur with
  | zero => rw [Nat.zero_min]; rfl
  | succ n ih =>
    rw [take]
    rcases Nat.lt_or_ge c.maxAttempts cur with h | h
    · rw [next_of_gt c cur h, Nat.sub_eq_zero_of_le h, Nat.min_zero]; rfl
    · -- `cur ≤ maxAttempts`: the window is one item longer than the one that starts at `cur + 1`
      rw [next_of_le c cur h, Nat.succ_sub h, Nat.succ_min_succ, List.range'_succ, List.map_cons, ← Nat.succ_sub_succ, ← ih]

theorem schedule_eq (c : Cfg) : schedule c = (List.range' 1 c.maxAttempts).map (attemptAt c) := by
  rw [schedule, take_eq, Nat.add_sub_cancel, Nat.min_eq_right (Nat.le_succ _)]

theorem schedule_length (c : Cfg) : (schedule c).length = c.maxAttempts := by
  rw [schedule_eq, List.length_map, List.length_range']

end Selium.Backoff
