/-
`reconnect` (one outage) characterised by its first attempt that does not fail recoverably; `poll` of the pub/sub wrapper
and the wake-driven executor over it, with the wrapper's wake sites as hypotheses (Props/C12 supplies them from the
regenerated facts).
-/
import SeliumModel.Client.KeepAlive
import SeliumModel.Client.KeepAliveSM

namespace Selium.KeepAlive

/-- how an outage ends at an attempt that does not fail recoverably -/
def decided : Attempt → Outcome
  | .ok => .reconnected
  | .fatal => .fatalError
  | .recoverable => .tooManyRetries

theorem decided_ne {a : Attempt} (h : a ≠ .recoverable) : decided a ≠ .tooManyRetries := by
  cases a with
  | ok | fatal => exact nofun
  | recoverable => exact absurd rfl h

theorem reconnect_spec (m : Nat) (rs : List Attempt) :
    ((∀ i, i < m → rs.getD i .recoverable = .recoverable) ∧ reconnect m rs = (.tooManyRetries, m)) ∨
    (∃ k, k < m ∧ (∀ i, i < k → rs.getD i .recoverable = .recoverable) ∧ rs.getD k .recoverable ≠ .recoverable ∧
      reconnect m rs = (decided (rs.getD k .recoverable), k + 1)) := by
  induction m generalizing rs with
  | zero => exact .inl ⟨nofun, rfl⟩
  | succ n ih =>
    have h0 : rs.headD .recoverable = rs.getD 0 .recoverable := by cases rs <;> rfl
    have hs : ∀ i, rs.tail.getD i .recoverable = rs.getD (i + 1) .recoverable := by intro i; cases rs <;> rfl
    rw [reconnect, h0]
    cases hr : rs.getD 0 .recoverable with
    | ok | fatal => exact .inr ⟨0, Nat.succ_pos _, nofun, by rw [hr]; exact nofun, by rw [hr]; rfl⟩
    | recoverable =>
      have hall : ∀ k, (∀ i, i < k → rs.tail.getD i .recoverable = .recoverable) →
          ∀ i, i < k + 1 → rs.getD i .recoverable = .recoverable := by
        intro k h i hi
        cases i with
        | zero => exact hr
        | succ j => rw [← hs]; exact h j (Nat.lt_of_succ_lt_succ hi)
      rcases ih rs.tail with ⟨h, e⟩ | ⟨k, hk, h, hne, e⟩
      · exact .inl ⟨hall n h, by simp only [e]⟩
      · exact .inr ⟨k + 1, Nat.succ_lt_succ hk, hall k h, by rw [← hs]; exact hne, by simp only [e, hs]⟩

theorem reconnect_used_le (left : Nat) (rs : List Attempt) : (reconnect left rs).2 ≤ left := by
  rcases reconnect_spec left rs with ⟨_, e⟩ | ⟨k, hk, _, _, e⟩ <;> rw [e]
  · exact Nat.le_refl _
  · exact hk

theorem reconnect_decided (m k : Nat) (rs : List Attempt) (hk : k < m)
    (hrec : ∀ i, i < k → rs.getD i .recoverable = .recoverable) (hd : rs.getD k .recoverable ≠ .recoverable) :
    reconnect m rs = (decided (rs.getD k .recoverable), k + 1) := by
  rcases reconnect_spec m rs with ⟨h, _⟩ | ⟨k', hk', h', hne', e⟩
  · exact absurd (h k hk) hd
  · -- `k` and `k'` are both the first index that does not fail recoverably
    have : k' = k := by
      rcases Nat.lt_trichotomy k' k with hlt | heq | hgt
      · exact absurd (hrec k' hlt) hne'
      · exact heq
      · exact absurd (h' k hgt) hd
    rw [e, this]

theorem replierLife_refused (m n l : Nat) (ss : List Session) :
    replierLife true true m (n + l) (List.replicate n { refused := true, attempts := [.ok] } ++ ss) =
      List.replicate n Outcome.reconnected ++ replierLife true true m l ss := by
  induction n with
  | zero => rw [Nat.zero_add]; rfl
  | succ n ih => rw [Nat.succ_add]; exact congrArg (Outcome.reconnected :: ·) ih

theorem onDisconnect_wakes (max : Nat) (p : Bool) {wa we : Bool} (ha : wa = true) (he : we = true) (carried : Nat)
    {s : Status} (hs : s ≠ .exhausted) : (onDisconnect max p wa we carried s).2 = true := by
  fun_cases onDisconnect max p wa we carried s
  · exact he
  · exact ha
  · exact he
  · exact ha
  · exact absurd rfl hs

theorem poll_wake (c : Cfg) (hA : c.wakeArm = true) (hE : c.wakeExhaust = true) (hS : c.wakeSuccess = true)
    (s : Status) (inner : InnerAns) (attempt : AttemptAns) (h : (poll c s inner attempt).seen = .pending) :
    (poll c s inner attempt).woke = true ∨ (poll c s inner attempt).childHolds = true := by
  cases s with
  | connected =>
    cases inner with
    | ready | failed => cases h
    | pending => exact .inr rfl
    | disconnected => exact .inl (onDisconnect_wakes _ _ hA hE _ nofun)
  | disconnected left =>
    cases attempt with
    | pending => exact .inr rfl
    | ok => exact .inl hS
    | fatal => cases h
    | recoverable => exact .inl (onDisconnect_wakes _ _ hA hE _ nofun)
  | exhausted => cases h

theorem drive_woken (c : Cfg) (fuel : Nat) (s : Status) (h : (poll c s .disconnected .recoverable).seen = .pending)
    (hw : (poll c s .disconnected .recoverable).woke = true) :
    driveUntilValue c (fuel + 1) s = .pending :: driveUntilValue c fuel (poll c s .disconnected .recoverable).status := by
  rw [driveUntilValue, if_pos h, hw]; rfl

-- `left + 2` polls happen, so fuel `left + 2` is enough and `left + 1` is not; the third unit (here and in
-- `drive_connected`) is the slack in the statement of `c12_exhaustion_is_reported` (Props/C12)
theorem drive_disconnected (c : Cfg) (hA : c.wakeArm = true) (hE : c.wakeExhaust = true) (left : Nat) :
    driveUntilValue c (left + 3) (.disconnected left) = List.replicate (left + 1) .pending ++ [.tooManyRetries] := by
  induction left with
  | zero => exact drive_woken c 2 (.disconnected 0) rfl hE
  | succ n ih => exact (drive_woken c (n + 3) (.disconnected (n + 1)) rfl hA).trans (congrArg (Seen.pending :: ·) ih)

/-- noticing the loss is like a failed attempt with the whole budget left: `poll` hands `on_disconnect` the whole
    budget as what is carried over, so the scope of the budget makes no difference -/
theorem poll_lost (c : Cfg) (a : AttemptAns) (i : InnerAns) :
    poll c .connected .disconnected a = poll c (.disconnected c.max) i .recoverable := by
  simp only [poll, onDisconnect, ite_self]
  cases c.max <;> rfl

theorem drive_congr (c : Cfg) {s s' : Status}
    (h : poll c s .disconnected .recoverable = poll c s' .disconnected .recoverable) (fuel : Nat) :
    driveUntilValue c fuel s = driveUntilValue c fuel s' := by
  cases fuel with
  | zero => rfl
  | succ n => rw [driveUntilValue, driveUntilValue, h]

theorem drive_connected (c : Cfg) (hA : c.wakeArm = true) (hE : c.wakeExhaust = true) :
    driveUntilValue c (c.max + 3) .connected = List.replicate (c.max + 1) .pending ++ [.tooManyRetries] :=
  (drive_congr c (poll_lost c _ _) _).trans (drive_disconnected c hA hE c.max)

end Selium.KeepAlive
