import SeliumModel.Lemmas.ReqRepProgress
namespace Selium.Route
open Selium.Sink

/-! ## Shutdown (C16, request/reply half) -/

/-- the channel is closed, and nothing has been taken from a peer's stream since `s0` -/
def ClosedSince (s0 t : RR) : Prop := t.closed = true ∧ t.taken = s0.taken ∧ t.repTaken = s0.repTaken

/-- With the channel closed an iteration never gets past the channel poll (block H): it returns there or earlier, or
    adopts a queued socket and starts over. So the blocks that read the peers' streams (D, F) are not reached.
    The premise `o ≠ .outOfFuel`, which no iteration needs, and `ClosedSince` for falling through, which none does, make
    this the step `rrPoll_post` takes for `rrPoll_closed`. -/
theorem iter_closed (s0 s : RR) (h : ClosedSince s0 s) :
    (iter s).Post
      (fun o t => (o ≠ .outOfFuel → o = .done ∨ o = .blockedOnReplier ∨ o = .blockedOnRejected ∨ o = .blockedOnRequestor) ∧
        ClosedSince s0 t)
      (ClosedSince s0) (ClosedSince s0) := by
  apply iter_post s (N₁ := ClosedSince s0) (N₂ := ClosedSince s0) (N₃ := fun _ => False) (N₄ := fun _ => False)
    (N₅ := fun _ => False) (N₆ := fun _ => False)
  · exact partA_post _ fun _ _ _ _ _ => ⟨⟨by simp, h⟩, h⟩
  · exact fun t ht => partB_post t fun _ _ _ => ⟨⟨by simp, ht⟩, ht, ht⟩
  · intro t ht
    fun_cases partH t
    · exact adoptSock_frame (P := ClosedSince s0) t _ _ fun _ _ _ _ _ _ => ht
    · exact ⟨by simp, ht⟩
    · exact ⟨by simp, ht⟩
    all_goals exact absurd ht.1 ‹_›
  all_goals exact fun _ h => h.elim

theorem rrPoll_closed (fuel : Nat) (s : RR) (hc : s.closed = true) :
    ((rrPoll fuel s).1 ≠ .outOfFuel → (rrPoll fuel s).1 = .done ∨ (rrPoll fuel s).1 = .blockedOnReplier ∨
      (rrPoll fuel s).1 = .blockedOnRejected ∨ (rrPoll fuel s).1 = .blockedOnRequestor) ∧ ClosedSince s (rrPoll fuel s).2 :=
  rrPoll_post (iter_closed s) (fun _ h => ⟨fun hne => absurd rfl hne, h⟩) fuel s ⟨hc, rfl, rfl⟩

theorem rrPoll_closed_outcome (fuel : Nat) (s : RR) (hc : s.closed = true) (hf : rwork s < fuel) :
    (rrPoll fuel s).1 = .done ∨ (rrPoll fuel s).1 = .blockedOnReplier ∨
    (rrPoll fuel s).1 = .blockedOnRejected ∨ (rrPoll fuel s).1 = .blockedOnRequestor :=
  (rrPoll_closed fuel s hc).1 (rrPoll_terminates fuel s hf)

end Selium.Route
