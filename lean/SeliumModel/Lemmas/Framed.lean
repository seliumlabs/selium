import SeliumModel.Lemmas.Frame
import SeliumModel.Wire.Framed

namespace Selium.Wire
open Selium Selium.Gen.Frame

theorem drain_eq (b : Bytes) : drain b =
    match decode b with
    | .ok (some f, rest) => (.frame f :: (drain rest).1, (drain rest).2)
    | .ok (none, _) => ([], some b)
    | .err e => ([.error e], none)
    | .panic s => ([.panic s], none) := by
  rw [drain]; split <;> simp only [*]

theorem drain_some (b : Bytes) (f : Frame) (rest : Bytes) (h : decode b = .ok (some f, rest)) :
    drain b = (.frame f :: (drain rest).1, (drain rest).2) := by
  rw [drain_eq, h]

theorem drain_none (b b' : Bytes) (h : decode b = .ok (none, b')) : drain b = ([], some b) := by
  rw [drain_eq, h]

theorem drain_append (x y : Bytes) :
    drain (x ++ y) =
      match (drain x).2 with
      | none => drain x
      | some left => ((drain x).1 ++ (drain (left ++ y)).1, (drain (left ++ y)).2) := by
  -- `drain`'s arms: `case1` a frame, then the rest; `case2` more bytes needed; `case3` an error; `case4` a panic
  fun_induction drain x with
  | case1 x f rest hd _ r ih =>
    rw [drain_eq (x ++ y), decode_append x y (by simp [hd]), hd]
    simp only [Res.map, ih]
    cases hr : (drain rest).2 <;> simp [r, hr]
  | case2 x b' hd => simp
  | case3 x e hd | case4 x e hd => rw [drain_eq (x ++ y), decode_append x y (by simp [hd]), hd]; rfl

theorem drain_leftover (x left : Bytes) : (drain x).2 = some left → drain left = ([], some left) := by
  fun_induction drain x with
  | case1 x f rest hd _ r ih => exact ih
  | case2 x b' hd => intro h; cases h; exact drain_none _ b' hd
  | case3 | case4 => nofun

theorem run_merge (buf a b : Bytes) (rs : List Read) :
    run buf (.data a :: .data b :: rs) = run buf (.data (a ++ b) :: rs) := by
  simp only [run]
  rw [← List.append_assoc buf a b, drain_append (buf ++ a) b]
  cases h : (drain (buf ++ a)).2 with
  | none => simp [h]
  | some left =>
    simp only []
    cases h2 : (drain (left ++ b)).2 <;> simp [List.append_assoc]

/-- `hbuf`: `buf` holds no complete frame, which is the case initially and after every read -/
theorem run_chunks (buf : Bytes) (hbuf : drain buf = ([], some buf)) (chunks : List Bytes) (rs : List Read) :
    run buf (chunks.map Read.data ++ rs) = run buf (.data chunks.flatten :: rs) := by
  induction chunks generalizing buf with
  | nil =>
    simp only [List.map_nil, List.nil_append, List.flatten_nil, run, List.append_nil, hbuf]
  | cons c cs ih =>
    simp only [List.map_cons, List.cons_append, List.flatten_cons]
    rw [← run_merge]
    simp only [run]
    cases h : (drain (buf ++ c)).2 with
    | none => simp
    | some left =>
      simp only []
      rw [ih left (drain_leftover _ _ h)]
      simp only [run]

theorem drain_nil : drain [] = ([], some []) := drain_none [] [] (decode_short [] (by decide))

/-- `encode` of each frame, concatenated (`none` if some frame is refused). -/
def encodeAll : List Frame → Option Bytes
  | [] => some []
  | f :: fs =>
    match encode f, encodeAll fs with
    | .ok b, some r => some (b ++ r)
    | _, _ => none

/-- a well-formed frame within the limit: `encode` succeeds -/
def Frame.sendable (f : Frame) : Prop :=
  f.wf = true ∧ ∀ body, payloadBytes (writeBody f.kind) f.payload = .ok body → body.length ≤ maxMessageSize

theorem encode_sendable (f : Frame) (h : f.sendable) :
    ∃ body, payloadBytes (writeBody f.kind) f.payload = .ok body ∧ body.length ≤ maxMessageSize ∧
      encode f = .ok (beBytes 8 body.length ++ (UInt8.ofNat (tagOf f.kind) :: body)) := by
  obtain ⟨body, hb⟩ := payloadBytes_wf f h.1
  exact ⟨body, hb, h.2 body hb, encode_ok f body hb (h.2 body hb)⟩

theorem drain_encodeAll (fs : List Frame) (hs : ∀ f ∈ fs, f.sendable) (wire : Bytes)
    (hw : encodeAll fs = some wire) : drain wire = (fs.map Item.frame, some []) := by
  induction fs generalizing wire with
  | nil => cases hw; exact drain_nil
  | cons f fs ih =>
    obtain ⟨hf, hfs⟩ := List.forall_mem_cons.1 hs
    obtain ⟨body, hb, hlen, henc⟩ := encode_sendable f hf
    cases hr : encodeAll fs with
    | none => simp [encodeAll, henc, hr] at hw
    | some r =>
      simp only [encodeAll, henc, hr, Option.some.injEq] at hw
      subst hw
      rw [drain_some _ f r (decode_encoded f body r hf.1 hb hlen), ih hfs r hr]
      rfl

end Selium.Wire
