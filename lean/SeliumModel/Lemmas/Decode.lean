import SeliumModel.Wire.Frame
import SeliumModel.Lemmas.Basic

/-! `Wire.decode` by its four ways out, one equation each; the one walk of `decode` outside this file is `decode_no_panic`
in Lemmas/Total. -/
namespace Selium.Wire
open Selium Selium.Gen.Frame

-- obligations on the constants of `Gen/Frame.lean`; the statements below are written with the numerals
theorem reserved_eq : RESERVED = 9 := rfl

theorem lenMarkerSize_eq : lenMarkerSize = 8 := rfl

theorem decode_short (src : Bytes) (h : src.length < 9) : decode src = .ok (none, src) := by
  rw [decode, reserved_eq, if_pos h]

theorem decode_too_large (src : Bytes) (h9 : 9 ≤ src.length) (hbig : maxMessageSize < declaredLen src) :
    decode src = .err "payload-too-large" := by
  rw [decode, reserved_eq, if_neg (Nat.not_lt.2 h9), if_pos hbig]

theorem decode_partial (src : Bytes) (h9 : 9 ≤ src.length) (hmax : declaredLen src ≤ maxMessageSize)
    (h : src.length < 9 + declaredLen src) : decode src = .ok (none, src) := by
  rw [decode, reserved_eq, if_neg (Nat.not_lt.2 h9), if_neg (Nat.not_lt.2 hmax),
    if_pos (Nat.sub_lt_left_of_lt_add h9 h)]

theorem decode_complete (src : Bytes) (hmax : declaredLen src ≤ maxMessageSize)
    (h : 9 + declaredLen src ≤ src.length) :
    decode src = (tryFrom (typeByte src) ((src.drop 9).take (declaredLen src))).map
      fun f => (some f, (src.drop 9).drop (declaredLen src)) := by
  rw [decode, reserved_eq, if_neg (Nat.not_lt.2 (Nat.le_trans (Nat.le_add_right 9 _) h)),
    if_neg (Nat.not_lt.2 hmax), if_neg (Nat.not_lt.2 (Nat.le_sub_of_add_le' h))]
  cases tryFrom (typeByte src) ((src.drop 9).take (declaredLen src)) <;> rfl

theorem decode_shrinks (src : Bytes) (f : Frame) (rest : Bytes) :
    decode src = .ok (some f, rest) → rest.length < src.length := by
  fun_cases decode src <;> intro h <;> cases h
  next h9 _ _ _ =>
    -- the nine header bytes, at least, are gone
    rw [List.length_drop, List.length_drop]
    exact Nat.lt_of_le_of_lt (Nat.sub_le _ _) (Nat.sub_lt_of_pos_le (by decide) (Nat.not_lt.1 h9))

theorem decode_none_same (b b' : Bytes) : decode b = .ok (none, b') → b' = b := by
  fun_cases decode b <;> intro h <;> cases h <;> rfl

theorem declaredLen_append (b y : Bytes) (h : 9 ≤ b.length) : declaredLen (b ++ y) = declaredLen b := by
  rw [declaredLen, declaredLen, lenMarkerSize_eq, List.take_append_of_le_length (Nat.le_of_succ_le h)]

theorem typeByte_append (b y : Bytes) (h : 9 ≤ b.length) : typeByte (b ++ y) = typeByte b := by
  rw [typeByte, typeByte, lenMarkerSize_eq, List.headD_eq_head?_getD, List.headD_eq_head?_getD, List.head?_drop,
    List.head?_drop, List.getElem?_append_left h]

/-- `h`: `decode` has decided (frame, error or panic); bytes that arrive behind only lengthen the remainder -/
theorem decode_append (b y : Bytes) (h : decode b ≠ .ok (none, b)) :
    decode (b ++ y) = (decode b).map fun p => (p.1, p.2 ++ y) := by
  have hlen : b.length ≤ (b ++ y).length := by rw [List.length_append]; exact Nat.le_add_right _ _
  rcases Nat.lt_or_ge b.length 9 with h9 | h9
  · exact absurd (decode_short b h9) h
  have hd := declaredLen_append b y h9
  rcases Nat.lt_or_ge maxMessageSize (declaredLen b) with hbig | hmax
  · rw [decode_too_large b h9 hbig, decode_too_large _ (Nat.le_trans h9 hlen) (hd ▸ hbig)]; rfl
  rcases Nat.lt_or_ge b.length (9 + declaredLen b) with hw | hl
  · exact absurd (decode_partial b h9 hmax hw) h
  have hl' : declaredLen b ≤ (b.drop 9).length := by rw [List.length_drop]; exact Nat.le_sub_of_add_le' hl
  rw [decode_complete b hmax hl, decode_complete (b ++ y) (hd ▸ hmax) (hd ▸ Nat.le_trans hl hlen), hd,
    typeByte_append b y h9, List.drop_append_of_le_length h9, List.take_append_of_le_length hl',
    List.drop_append_of_le_length hl', Res.map_map]
  rfl

theorem decode_frame (hdr : Bytes) (ty : UInt8) (body rest : Bytes) (h8 : hdr.length = 8)
    (hn : beNat hdr = body.length) (hmax : body.length ≤ maxMessageSize) :
    decode (hdr ++ ty :: body ++ rest) = (tryFrom ty.toNat body).map fun f => (some f, rest) := by
  have hdl : declaredLen (hdr ++ ty :: body ++ rest) = body.length := by
    rw [List.append_assoc, declaredLen, lenMarkerSize_eq, List.take_left' h8, hn]
  have hty : typeByte (hdr ++ ty :: body ++ rest) = ty.toNat := by
    rw [typeByte, lenMarkerSize_eq, List.append_assoc, List.drop_left' h8]; rfl
  have hdrop : (hdr ++ ty :: body ++ rest).drop 9 = body ++ rest := by
    rw [show (9 : Nat) = 8 + 1 from rfl, ← List.drop_drop, List.append_assoc, List.drop_left' h8]; rfl
  rw [decode_complete _ (by rwa [hdl])
      (by rw [hdl]; simp only [List.length_append, List.length_cons, h8]; omega),
    hdl, hty, hdrop, List.take_left' rfl, List.drop_left' rfl]

end Selium.Wire
