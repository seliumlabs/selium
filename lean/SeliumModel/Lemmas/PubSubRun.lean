import SeliumModel.Route.PubSub
/-
One `poll` of the pub/sub router as a run of primitive steps. `pollFuel` is written with open recursion through
`handlePart` / `streamPart` (so `fun_induction` gives no induction hypothesis) and returns triples: a fact about it would
have to be carried through all three functions by hand. `pollFuel_run` walks them once: every poll is a `Reach n s t`
(primitive steps from `s` to `t`, `n` times round the loop) followed by a `Returns t out s'` (from `t` the poll returns
`out` and leaves `s'`). An invariant is then an `induction` on `Reach`, a fact about an outcome a `cases` on `Returns`.
`Reach` is an upper bound (a constructor carries only those of the code's conditions that some proof needs, and a sink
operation may be followed by any step whatever it answered), which is all that safety and measure arguments need.
-/
namespace Selium.Route
open Selium.Sink
variable {α : Type}

def PS.withSinks (s : PS α) (ks : List (Child α)) : PS α :=
  { s with sinks := ks, evicted := s.evicted ++ gone s.sinks ks }

inductive Reach : Nat → PS α → PS α → Prop
  | refl (s : PS α) : Reach 0 s s
  | ready {n s t} : Reach n (s.withSinks (pollReady s.sinks).2.1) t → Reach n s t
  | send {n s t} (x : α) : s.buffered = some x →
      Reach n { s.withSinks (startSend x s.sinks).1 with buffered := none } t → Reach n s t
  | flush {n s t} : Reach n (flushSinks s).2.1 t → Reach n s t
  | adopt {n s t} (sock : Sock α) (q : List (Sock α)) : s.buffered = none → s.queue = sock :: q →
      Reach n (adopt s sock q) t → Reach (n + 1) s t
  /-- the channel answered Pending: it now holds the waker -/
  | reg {n s t} : Reach n { s with handleReg := true } t → Reach n s t
  | item {n s t} (i sid : Nat) (x : α) (es : List (StreamSt α)) (evs : List (Ev α)) :
      s.buffered = none → s.closed = false → s.streams ≠ [] → smPoll i s.streams = (.item sid x, es, evs) →
      Reach n { s with streams := es, buffered := some x, accepted := s.accepted ++ [x], src := s.src ++ [sid] } t →
      Reach (n + 1) s t
  | polled {n s t} (i : Nat) (r : SMRes α) (es : List (StreamSt α)) (evs : List (Ev α)) :
      s.closed = false → s.streams ≠ [] → smPoll i s.streams = (r, es, evs) → (∀ sid x, r ≠ .item sid x) →
      Reach n { s with streams := es } t → Reach (n + 1) s t

inductive Returns : PS α → Outcome → PS α → Prop
  | outOfFuel (t : PS α) : Returns t .outOfFuel t
  | notReady (t : PS α) (x : α) : t.buffered = some x → (pollReady t.sinks).1 = .pending →
      Returns t .blockedOnSink (t.withSinks (pollReady t.sinks).2.1)
  | notFlushed (t : PS α) : (flushSinks t).1 = .pending → Returns t .blockedOnSink (flushSinks t).2.1
  | done (t : PS α) : t.buffered = none → t.queue = [] → t.closed = true → (flushSinks t).1 = .ready →
      Returns t .done (flushSinks t).2.1
  | idle (t : PS α) : t.buffered = none → t.queue = [] → t.closed = false → t.handleReg = true →
      (flushSinks t).1 = .ready → Returns t .idle (flushSinks t).2.1
  /-- the stream poll that answered Pending belongs to the return (in the not-flushed case it is a `Reach.polled` step
      before it): `Returns.measure_lt` claims the strict decrease of the return alone -/
  | waiting (t : PS α) (i : Nat) (es : List (StreamSt α)) (evs : List (Ev α)) :
      t.buffered = none → t.queue = [] → t.closed = false → t.handleReg = true → t.streams ≠ [] →
      smPoll i t.streams = (.pending, es, evs) → (flushSinks { t with streams := es }).1 = .ready →
      Returns t .waitingStreams (flushSinks { t with streams := es }).2.1

theorem Reach.trans {n m : Nat} {s t u : PS α} (h1 : Reach n s t) (h2 : Reach m t u) : Reach (m + n) s u := by
  induction h1 with
  | refl => exact h2
  | ready _ ih => exact .ready (ih h2)
  | send x hb _ ih => exact .send x hb (ih h2)
  | flush _ ih => exact .flush (ih h2)
  | adopt sock q hb hq _ ih => exact .adopt sock q hb hq (ih h2)
  | reg _ ih => exact .reg (ih h2)
  | item i sid x es evs hb hc hne hsm _ ih => exact .item i sid x es evs hb hc hne hsm (ih h2)
  | polled i r es evs hc hne hsm hr _ ih => exact .polled i r es evs hc hne hsm hr (ih h2)

theorem Returns.reach {t s' : PS α} {out : Outcome} (h : Returns t out s') : ∃ n, Reach n t s' := by
  cases h with
  | outOfFuel => exact ⟨_, .refl _⟩
  | notReady => exact ⟨_, .ready (.refl _)⟩
  | notFlushed => exact ⟨_, .flush (.refl _)⟩
  | done => exact ⟨_, .flush (.refl _)⟩
  | idle => exact ⟨_, .flush (.refl _)⟩
  | waiting i es evs _ _ hc _ hne hsm => exact ⟨_, .polled i _ es evs hc hne hsm nofun (.flush (.refl _))⟩

/-- `r` is what a poll from `s` returns; one that ran out of fuel went round `fuel` times (the count is what
    `pollFuel_terminates` reads). -/
def Run (fuel : Nat) (s : PS α) (r : Outcome × PS α × List (Ev α)) : Prop :=
  ∃ n t, Reach n s t ∧ Returns t r.1 r.2.1 ∧ (r.1 = .outOfFuel → n = fuel)

theorem Run.leaf {fuel : Nat} {s : PS α} {r : Outcome × PS α × List (Ev α)} (h : Returns s r.1 r.2.1)
    (hf : r.1 = .outOfFuel → fuel = 0) : Run fuel s r :=
  ⟨0, s, .refl s, h, fun e => (hf e).symm⟩

-- The run comes first: Lean then reads `u` off the goal, as `pollFuel` spells it, and checks the `Reach` constructors
-- against it. Steps first, it meets `pollFuel`'s spelling and `Reach.send`'s (`withSinks`) under `handlePart`, and
-- `pollFuel_run` costs ten times as much.
theorem Run.prepend {fuel k : Nat} {s u : PS α} {r : Outcome × PS α × List (Ev α)} (h : Run fuel u r)
    (hs : Reach k s u) : Run (fuel + k) s r := by
  obtain ⟨n, t, h1, h2, h3⟩ := h
  exact ⟨n + k, t, hs.trans h1, h2, fun e => congrArg (· + k) (h3 e)⟩

theorem Run.step {fuel : Nat} {s u : PS α} {r : Outcome × PS α × List (Ev α)} (h : Run fuel u r) (hs : Reach 0 s u) :
    Run fuel s r :=
  h.prepend hs

theorem streamPart_run (fuel : Nat) (oracle : List Nat) (s : PS α)
    (rec : List Nat → PS α → Outcome × PS α × List (Ev α)) (hrec : ∀ o s, Run fuel s (rec o s))
    (hb : s.buffered = none) (hq : s.queue = []) (hc : s.closed = false) (hr : s.handleReg = true)
    (hne : s.streams ≠ []) : Run (fuel + 1) s (streamPart oracle s rec) := by
  fun_cases streamPart oracle s rec
  case case1 sid x es evs hsm => exact .prepend (hrec _ _) (.item _ sid x es evs hb hc hne hsm (.refl _))
  case case2 sid es evs hsm => exact .prepend (hrec _ _) (.polled _ _ es evs hc hne hsm nofun (.refl _))
  case case3 es evs hsm hf =>
    exact .prepend (.leaf (.notFlushed _ hf) nofun) (.polled _ _ es evs hc hne hsm nofun (.refl _))
  case case4 es evs hsm hf => exact .prepend (hrec _ _) (.polled _ _ es evs hc hne hsm nofun (.flush (.refl _)))
  case case5 es evs hsm =>
    cases hf : (flushSinks { s with streams := es }).1 with
    | pending => exact .prepend (.leaf (.notFlushed _ hf) nofun) (.polled _ _ es evs hc hne hsm nofun (.refl _))
    | ready => exact .leaf (.waiting s _ es evs hb hq hc hr hne hsm hf) nofun

theorem handlePart_run (fuel : Nat) (oracle : List Nat) (s : PS α)
    (rec : List Nat → PS α → Outcome × PS α × List (Ev α)) (hrec : ∀ o s, Run fuel s (rec o s))
    (hb : s.buffered = none) : Run (fuel + 1) s (handlePart oracle s rec) := by
  fun_cases handlePart oracle s rec
  case case1 sock q hq => exact .prepend (hrec _ _) (.adopt sock q hb hq (.refl _))
  case case2 hq hc hf => exact .leaf (.notFlushed _ hf) nofun
  case case3 hq hc hf => exact .leaf (.done _ hb hq hc hf) nofun
  case case4 hq hc he =>
    have hc : s.closed = false := Bool.eq_false_iff.mpr hc
    refine .step ?_ (.reg (.refl _))
    cases hf : (flushSinks s).1 with
    | pending => exact .leaf (.notFlushed _ hf) nofun
    | ready => exact .leaf (.idle _ hb hq hc rfl hf) nofun
  case case5 hq hc he =>
    have hc : s.closed = false := Bool.eq_false_iff.mpr hc
    have hne : s.streams ≠ [] := fun h0 => he (by simp [h0, hb])
    exact .step (streamPart_run fuel oracle _ rec hrec hb hq hc rfl hne) (.reg (.refl _))

theorem pollFuel_run (fuel : Nat) (o : List Nat) (s : PS α) : Run fuel s (pollFuel fuel o s) := by
  induction fuel generalizing o s with
  | zero => exact .leaf (.outOfFuel s) fun _ => rfl
  | succ fuel ih =>
    unfold pollFuel
    split
    · rename_i x hx
      split
      · rename_i hp
        exact .leaf (.notReady s x hx hp) nofun
      · exact .step (handlePart_run fuel o _ _ ih rfl) (.ready (.send x hx (.refl _)))
    · rename_i hx
      exact handlePart_run fuel o s _ ih hx

theorem pollFuel_reach (fuel : Nat) (o : List Nat) (s : PS α) : ∃ n, Reach n s (pollFuel fuel o s).2.1 := by
  obtain ⟨n, t, h1, h2, _⟩ := pollFuel_run fuel o s
  obtain ⟨m, h3⟩ := h2.reach
  exact ⟨_, h1.trans h3⟩

theorem exec_snoc (history : List (Event α)) (e : Event α) : exec (history ++ [e]) = applyEvent (exec history) e :=
  List.foldl_append ..

theorem exec_invariant {P : PS α → Prop} (h0 : P {})
    (hchan : ∀ s q c r, P s → P { s with queue := q, closed := c, handleReg := r })
    (hreach : ∀ n s t, Reach n s t → P s → P t) (evs : List (Event α)) : P (exec evs) := by
  refine List.foldlRecOn evs applyEvent h0 fun s h e _ => ?_
  cases e with
  | enqueue sock =>
    show P (if s.closed then s else _)
    split
    · exact h
    · exact hchan _ _ _ _ h
  | close => exact hchan _ _ _ _ h
  | poll fuel o => exact (pollFuel_reach fuel o s).elim fun n hr => hreach n _ _ hr h

end Selium.Route
