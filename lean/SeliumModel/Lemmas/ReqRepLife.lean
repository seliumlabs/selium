import SeliumModel.Lemmas.RouterLife
import SeliumModel.Lemmas.ReqRepBlocks
/- C08 / C10 / C11, request/reply half: the life of every socket the router has adopted, read off the child-call trace. A
   replier socket (`vn`, `causeOf`) and a requestor's sink (`vc`, `causeOfC`) are each let go of only for a cause of their
   own, and after their `dropped` nothing in the trace concerns them: two instances of `Sink.Life`, kept together as
   `Lives`, and every block of the loop is walked once for both. -/
namespace Selium.Sink
variable {α : Type}

def isDrop : Ev α → Bool
  | .dropped _ => true
  | _ => false

end Selium.Sink

namespace Selium.Route
open Selium.Sink

/-- what in the child-call trace justifies dropping replier socket `n` -/
def causeOf (n : Nat) : REv → Prop
  | .v m (.ready _ .err) => m = n
  | .v m (.flush _ .err) => m = n
  | .v m (.sEnd _) => m = n
  | .v m (.send _ f _) => m = n ∧ f = rejectionFrame
  | .v m (.close _ _) => m = n
  | _ => False

/-- what in the trace justifies dropping requestor `k`'s sink: that sink's own failure -/
def causeOfC (k : Nat) : REv → Prop
  | .c (.ready i .err) => i = k
  | .c (.flush i .err) => i = k
  | .c (.send i _ false) => i = k
  | _ => False

/-- the replier socket an event concerns, and whether it is that socket's `dropped` -/
def vn : REv → Option (Nat × Bool)
  | .v n (.dropped _) => some (n, true)
  | .v n _ => some (n, false)
  | .c _ => none

/-- what an event of the trace asks of which requestor sink -/
def vc : REv → Option (Nat × Bool)
  | .c e => sid e
  | .v _ _ => none

theorem vn_c (e : Ev RFrame) : vn (REv.c e) = none := rfl
theorem vn_v (n : Nat) (y : Ev RFrame) : vn (REv.v n y) = some (n, isDrop y) := by cases y <;> rfl

theorem flushRouter_server (s : RR) : (flushRouter s).2.server = s.server := rfl

/-- the replier sockets the router holds: the bound one, and a late one that is being turned away -/
def live (s : RR) : List Nat := (s.server.map (·.n)).toList ++ (s.bufErr.map (·.n)).toList

def Lives (s : RR) : Prop :=
  Life vn causeOf s.trace (live s) s.nextServer ∧ Life vc causeOfC s.trace (s.sinks.map (·.id)) s.nextId

def livesView (s : RR) := (s.trace, live s, s.nextServer, s.sinks.map (·.id), s.nextId)

/-! The lemmas below say what a stretch of events does to `Lives`. Each is about ANY state `t` that looks to `Lives` like
    the state described (`ht`, closed by `rfl` at every use): the blocks write other fields as well. -/

theorem Lives.chunk {s t : RR} (h : Lives s) (es : List REv) {l ids : List Nat}
    (hv : Stretch vn (live s) l es) (hcv : CausedG vn causeOf s.trace es)
    (hc : Stretch vc (s.sinks.map (·.id)) ids es) (hcc : CausedG vc causeOfC s.trace es)
    (ht : livesView t = (s.trace ++ es, l, s.nextServer, ids, s.nextId)) : Lives t := by
  simp only [livesView, Prod.mk.injEq] at ht
  obtain ⟨h1, h2, h3, h4, h5⟩ := ht
  unfold Lives
  rw [h1, h2, h3, h4, h5]
  exact ⟨h.1.append hv hcv, h.2.append hc hcc⟩

def NoDrop (ys : List (Ev RFrame)) : Prop := ys.all (fun y => !isDrop y) = true

theorem vn_calls (n : Nat) (ys : List (Ev RFrame)) (hy : NoDrop ys) : ∀ e ∈ ys.map (REv.v n), vn e = some (n, false) := by
  intro e he
  obtain ⟨y, hy', rfl⟩ := List.mem_map.mp he
  have : isDrop y = false := by simpa using List.all_eq_true.mp hy y hy'
  rw [vn_v, this]

theorem vc_v (es : List REv) (h : ∀ e ∈ es, ∃ n y, e = REv.v n y) : ∀ e ∈ es, vc e = none := by
  intro e he; obtain ⟨n, y, rfl⟩ := h e he; rfl

theorem mem_map_v (n : Nat) (ys : List (Ev RFrame)) : ∀ e ∈ ys.map (REv.v n), ∃ m y, e = REv.v m y := by
  intro e he; obtain ⟨y, _, rfl⟩ := List.mem_map.mp he; exact ⟨n, y, rfl⟩

theorem calls_caused (n : Nat) (ys : List (Ev RFrame)) (hy : NoDrop ys) : ∀ seen, CausedG vn causeOf seen (ys.map (REv.v n)) :=
  causedG_no_drop _ _ _ (fun e he m hm => by rw [vn_calls n ys hy e he] at hm; cases hm)

theorem Lives.vside {s t : RR} (h : Lives s) (es : List REv) (hes : ∀ e ∈ es, ∃ n y, e = REv.v n y) {l : List Nat}
    (hv : Stretch vn (live s) l es) (hcv : CausedG vn causeOf s.trace es)
    (ht : livesView t = (s.trace ++ es, l, s.nextServer, s.sinks.map (·.id), s.nextId)) : Lives t :=
  h.chunk es hv hcv (Stretch.none _ (vc_v es hes)) (causedG_none _ _ es (vc_v es hes) _) ht

theorem Lives.call {s t : RR} (h : Lives s) {n : Nat} (hn : n ∈ live s) (ys : List (Ev RFrame)) (hy : NoDrop ys)
    (ht : livesView t = livesView (log s (ys.map (REv.v n)))) : Lives t :=
  h.vside _ (mem_map_v n ys) (Stretch.call hn (vn_calls n ys hy)) (calls_caused n ys hy _) ht

/-- calls on a socket that is held, then its `dropped`, for a cause among them or before -/
theorem Lives.call_drop {s t : RR} (h : Lives s) {n : Nat} (l₁ l₂ : List Nat) (hl : live s = l₁ ++ n :: l₂)
    (ys : List (Ev RFrame)) (hy : NoDrop ys) (hc : ∃ c ∈ s.trace ++ ys.map (REv.v n), causeOf n c) (k : Nat)
    (ht : livesView t = (s.trace ++ (ys.map (REv.v n) ++ [REv.v n (.dropped k)]), l₁ ++ l₂, s.nextServer,
      s.sinks.map (·.id), s.nextId)) : Lives t := by
  refine h.vside _ ?_ ?_ ?_ ht
  · intro e he
    rcases List.mem_append.mp he with h1 | h1
    · exact mem_map_v n ys e h1
    · exact ⟨n, _, List.mem_singleton.mp h1⟩
  · rw [hl]
    exact (Stretch.call (List.mem_append_right _ (.head _)) (vn_calls n ys hy)).trans
      ((Stretch.drop_head (l₁ ++ l₂) rfl).perm List.perm_middle (.refl _))
  · refine (causedG_append _ _ _ _ _).2 ⟨calls_caused n ys hy _, fun m hm => ?_, trivial⟩
    injection hm with hm; injection hm with hm
    exact hm ▸ hc

theorem Lives.server_call {s t : RR} (h : Lives s) {r : Replier} (hs : s.server = some r)
    (ys : List (Ev RFrame)) (hy : NoDrop ys) (ht : livesView t = livesView (log { s with server := some r } (ys.map (REv.v r.n)))) :
    Lives t :=
  h.call (n := r.n) (by rw [live, hs]; exact .head _) ys hy (ht.trans (by rw [← hs]))

theorem Lives.unbind {s : RR} (h : Lives s) {r r' : Replier} (hs : s.server = some r') (hn : r'.n = r.n)
    (hc : ∃ c ∈ s.trace, causeOf r.n c) : Lives (unbind s r) :=
  h.call_drop [] _ (by rw [live, hs, ← hn]; rfl) [] rfl (hc.imp fun _ h => ⟨List.mem_append_left _ h.1, h.2⟩) r.n rfl

theorem Lives.server_fail {s : RR} (h : Lives s) {r : Replier} (hs : s.server = some r) (ys : List (Ev RFrame)) (hy : NoDrop ys)
    (hc : ∃ y ∈ ys, causeOf r.n (.v r.n y)) : Lives (Route.unbind (log s (ys.map (REv.v r.n))) r) := by
  obtain ⟨y, hy1, hy2⟩ := hc
  exact Lives.unbind (s := log s (ys.map (REv.v r.n))) (h.server_call hs ys hy (by rw [← hs])) hs rfl
    ⟨_, List.mem_append_right _ (List.mem_map_of_mem hy1), hy2⟩

theorem Lives.late_call {s t : RR} (h : Lives s) {j : Rejection} (hj : s.bufErr = some j)
    (ys : List (Ev RFrame)) (hy : NoDrop ys) (ht : livesView t = livesView (log { s with bufErr := some j } (ys.map (REv.v j.n)))) :
    Lives t :=
  h.call (n := j.n) (by rw [live, hj]; exact List.mem_append_right _ (.head _)) ys hy (ht.trans (by rw [← hj]))

theorem Lives.late_drop {s t : RR} (h : Lives s) {j : Rejection} (hj : s.bufErr = some j) (ys : List (Ev RFrame)) (hy : NoDrop ys)
    (hc : ∃ y ∈ ys, causeOf j.n (.v j.n y))
    (ht : livesView t = livesView (log { s with bufErr := none } (ys.map (REv.v j.n) ++ [REv.v j.n (.dropped j.n)]))) : Lives t := by
  obtain ⟨y, hy1, hy2⟩ := hc
  exact h.call_drop _ [] (by rw [live, hj]; rfl) ys hy ⟨_, List.mem_append_right _ (List.mem_map_of_mem hy1), hy2⟩ j.n
    (ht.trans (by rw [livesView, live]; simp [log]))

theorem Lives.router {s t : RR} (h : Lives s) (cs : List (Ev RFrame)) {ks : List (Child RFrame)} (hop : OpOk s.sinks ks cs)
    (hd : CausedG vc causeOfC s.trace (cs.map REv.c)) (ht : livesView t = livesView (log { s with sinks := ks } (cs.map REv.c))) :
    Lives t := by
  have hvn : ∀ e ∈ cs.map REv.c, vn e = none := List.forall_mem_map.2 fun _ _ => rfl
  exact h.chunk _ (Stretch.none _ hvn) (causedG_none _ _ _ hvn _) (hop.stretch.map REv.c (fun _ => rfl)) hd ht

theorem routerReady_caused (o : List Nat) (es : List (Child RFrame)) :
    ∀ seen, CausedG vc causeOfC seen ((routerReady o es).2.2.1.map REv.c) :=
  (pickLoop_scan _ _ _ o es).caused REv.c _ (fun _ => rfl) (fun _ _ => rfl) (fun _ => rfl)

theorem routerFlush_caused (o : List Nat) (es : List (Child RFrame)) :
    ∀ seen, CausedG vc causeOfC seen ((routerFlush o es).2.2.1.map REv.c) :=
  (pickLoop_scan _ _ _ o es).caused REv.c _ (fun _ => rfl) (fun _ _ => rfl) (fun _ => rfl)

theorem routerSend_caused (f : RFrame) (es : List (Child RFrame)) :
    ∀ seen, CausedG vc causeOfC seen ((routerSend f es).2.2.map REv.c) := by
  intro seen
  refine routerSend_cases (motive := fun r => CausedG vc _ seen (r.2.2.map REv.c)) f es (fun _ => trivial)
    (fun _ _ _ _ _ _ _ _ _ => ⟨nofun, trivial⟩) fun _ _ _ _ _ _ _ _ _ => ⟨nofun, fun n hv => ?_, trivial⟩
  -- refused: the `send` that failed is the event before the `dropped`
  injection hv with hv; injection hv with hv
  exact ⟨_, List.mem_append_right _ (List.mem_singleton_self _), hv⟩

theorem Lives.flushRouter {s : RR} (h : Lives s) : Lives (flushRouter s).2 :=
  h.router _ (routerFlush_opOk s.ko s.sinks) (routerFlush_caused _ _ _) rfl

theorem smLoop_sid_none (n start idx : Nat) (es : List (StreamSt RFrame)) : ∀ e ∈ (smLoop n start idx es).2.2, sid e = none := by
  induction n generalizing idx es with
  | zero => exact fun _ h => nomatch h
  | succ m ih =>
    unfold smLoop
    split
    · exact fun _ h => nomatch h
    · split
      · exact fun e he => List.mem_singleton.mp he ▸ rfl
      · exact fun e he => List.mem_singleton.mp he ▸ rfl
      · exact fun e he => (List.mem_cons.mp he).elim (fun h => h ▸ rfl) (ih _ _ e)
      · exact fun e he => (List.mem_cons.mp he).elim (fun h => h ▸ rfl) (ih _ _ e)

theorem Lives.smPoll {s t : RR} (h : Lives s)
    (ht : livesView t = livesView (log s ((smPoll (s.so.headD 0) s.streams).2.2.map REv.c))) : Lives t :=
  h.router _ (OpOk.refl s.sinks _ (smLoop_sid_none _ _ _ _))
    (causedG_none vc _ _ ((List.forall_mem_map (f := REv.c)).2 (smLoop_sid_none _ _ _ _)) _) ht

theorem partA_lives (s : RR) (h : Lives s) : Lives (partA s).state := by
  fun_cases partA s
  case case1 f r hs _ _ => exact h.server_call hs [.ready r.n .pending] rfl rfl
  case case2 f r hs _ _ => exact h.server_fail hs [.ready r.n .err] rfl ⟨_, .head _, rfl⟩
  case case3 f r hs _ _ _ => exact h.server_call hs [.ready r.n .ready, .send r.n f true] rfl rfl
  case case4 f r hs _ _ _ => exact h.server_call hs [.ready r.n .ready, .send r.n f false] rfl rfl
  case case5 => exact h

theorem partB_lives (s : RR) (h : Lives s) : Lives (partB s).state := by
  fun_cases partB s
  case case1 => exact h
  case case2 j hj _ _ => exact h.late_call hj [.ready j.n .pending] rfl rfl
  case case3 j hj _ _ => exact h.late_drop hj [.ready j.n .err] rfl ⟨_, .head _, rfl⟩ rfl
  case case4 j hj _ _ _ =>
    exact h.late_call hj [.ready j.n .ready, .send j.n rejectionFrame true] rfl rfl
  case case5 j hj _ _ _ =>
    exact h.late_drop hj [.ready j.n .ready, .send j.n rejectionFrame false] rfl ⟨_, .tail _ (.head _), rfl, rfl⟩ rfl
  case case6 j hj _ _ => exact h.late_call hj [.close j.n .pending] rfl rfl
  case case7 j hj _ _ => exact h.late_drop hj [.close j.n j.sink.closeAns] rfl ⟨_, .head _, rfl⟩ rfl

theorem partB_next_none (s s' : RR) (h : partB s = .next s') : s'.bufErr = none := by
  revert h
  fun_cases partB s <;> intro h <;> cases h <;> first | rfl | assumption

/-- a new socket takes the next number of its kind; a late replier takes the rejection slot, which is free -/
theorem adoptSock_lives (s : RR) (sock : RSock) (q : List RSock) (hbe : s.bufErr = none) (h : Lives s) :
    Lives (adoptSock s sock q) := by
  cases sock with
  | client sink script => exact ⟨h.1, by simpa [adoptSock] using h.2.adopt⟩
  | server sink script =>
    have h1 := h.1.adopt
    unfold live at h1
    rw [hbe] at h1
    cases hs : s.server with
    | some r => rw [hs] at h1; simp only [Lives, live, adoptSock, hs]; exact ⟨h1, h.2⟩
    | none => rw [hs] at h1; simp only [Lives, live, adoptSock, hs, hbe]; exact ⟨h1, h.2⟩

theorem partH_lives (s : RR) (hbe : s.bufErr = none) (h : Lives s) : Lives (partH s).state := by
  fun_cases partH s
  · exact adoptSock_lives s _ _ hbe h
  · exact h.flushRouter
  · exact h.flushRouter
  · exact h
  · exact h

theorem flushReplier_lives (s : RR) (r : Replier) (after : RR → Flow) (hs : s.server = some r) (h : Lives s)
    (hafter : ∀ s', Lives s' → Lives (after s').state) : Lives (flushReplier s r after).state := by
  fun_cases flushReplier s r after
  · exact h.server_call hs [.flush r.n .pending] rfl rfl
  · exact hafter _ (h.server_fail hs [.flush r.n .err] rfl ⟨_, .head _, rfl⟩)
  · exact hafter _ (h.server_call hs [.flush r.n .ready] rfl rfl)

theorem partD_lives (s : RR) (h : Lives s) : Lives (partD s).state := by
  -- when the replier's stream has ended: that is the cause, whatever the requestors' sinks log before the `dropped`
  have hend : ∀ r, s.server = some r → ∀ a : Ans, Lives (log { s with server := some { r with sink := r.sink.afterFlush } }
      [.v r.n (.sEnd r.n), .v r.n (.flush r.n a)]) := fun r hs a =>
    h.server_call hs [.sEnd r.n, .flush r.n a] rfl rfl
  fun_cases partD s
  case case1 r _ hs f q _ => exact h.server_call hs [.sItem r.n f] rfl rfl
  case case2 r _ hs q _ => exact h.server_call hs [.sErr r.n] rfl rfl
  case case3 r _ hs q _ => exact h.server_call hs [.sPending r.n] rfl rfl
  case case4 r _ hs _ _ => exact hend r hs .pending
  case case5 r _ hs _ _ _ => exact (hend r hs _).flushRouter
  case case6 r _ hs _ _ _ =>
    exact Lives.unbind (hend r hs _).flushRouter rfl rfl ⟨_, List.mem_append_left _ (List.mem_append_right _ (.head _)), rfl⟩
  case case7 => exact h

theorem partE_lives (s : RR) (h : Lives s) : Lives (partE s).state := by
  fun_cases partE s
  · exact h
  · exact h.router _ (routerReady_opOk s.ko s.sinks) (routerReady_caused _ _ _) rfl
  case case3 f _ _ =>
    refine h.router _ ((routerReady_opOk s.ko s.sinks).trans (routerSend_opOk f _)) ?_ rfl
    rw [List.map_append]
    exact (causedG_append _ _ _ _ _).2 ⟨routerReady_caused _ _ _, routerSend_caused _ _ _⟩

theorem partF_lives (s : RR) (h : Lives s) : Lives (partF s).state := by
  have hsm : ∀ {r es evs}, smPoll (s.so.headD 0) s.streams = (r, es, evs) →
      Lives (log { s with streams := es, so := s.so.drop evs.length } (evs.map REv.c)) :=
    fun heq => h.smPoll (by rw [heq]; rfl)
  fun_cases partF s
  case case5 heq _ => exact (hsm heq).flushRouter
  case case6 heq _ r hr => exact flushReplier_lives _ r _ hr (hsm heq).flushRouter (fun s' hs' => hs')
  case case7 heq _ _ => exact (hsm heq).flushRouter
  all_goals exact hsm ‹_›

theorem partG_lives (s : RR) (h : Lives s) : Lives (partG s).state := by
  fun_cases partG s
  · exact h.flushRouter
  case case2 r hr => exact flushReplier_lives _ r _ hr h.flushRouter (fun s' hs' => hs')
  · exact h.flushRouter
  · exact h

/-- B then H: the rejection slot is free whenever the loop reaches the registration channel -/
theorem iter_lives (s : RR) (h : Lives s) : Lives (iter s).state :=
  (iter_post s (N₂ := fun t => Lives t ∧ t.bufErr = none) (.of_state (partA_lives _ h))
    (fun t ht => by
      have := partB_lives t ht
      cases hb : partB t <;> rw [hb] at this
      · exact this
      · exact ⟨this, partB_next_none t _ hb⟩
      · exact this)
    (fun t ht => .of_state (partH_lives t ht.2 ht.1)) (fun t ht => .of_state (partD_lives t ht))
    (fun t ht => .of_state (partE_lives t ht)) (fun t ht => .of_state (partF_lives t ht))
    (fun t ht => .of_state (partG_lives t ht))).state

theorem rrExec_lives (evs : List REvent) : Lives (rrExec evs) :=
  rrExec_inv ⟨Life.nil, Life.nil⟩ (fun _ _ _ _ _ _ _ _ h => h)
    (rrPoll_post (R := fun _ => Lives) (fun s h => .of_state (iter_lives s h)) (fun _ h => h)) evs

end Selium.Route
