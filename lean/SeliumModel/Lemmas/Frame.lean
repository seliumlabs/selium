import SeliumModel.Lemmas.Bincode
import SeliumModel.Lemmas.Decode

namespace Selium
open Selium.Bincode

namespace Wire
open Selium.Gen.Frame

/-! Obligations on the generated tables (re-checked whenever `Gen/Frame.lean` is regenerated) -/

theorem tag_roundtrip (k : Kind) : kindOfTag (tagOf k) = some k ∧ tagOf k < 256 := by
  cases k <;> exact ⟨rfl, by decide⟩

/-- `get_length`, `write_to_bytes` and `try_from` treat every kind's payload the same way -/
theorem bodies_agree (k : Kind) : lenBody k = writeBody k ∧ readBody k = writeBody k := by
  cases k <;> exact ⟨rfl, rfl⟩

theorem maxMessageSize_lt : maxMessageSize < 256 ^ 8 := by decide

theorem payloadBytes_wf (f : Frame) :
    f.wf = true → ∃ body, payloadBytes (writeBody f.kind) f.payload = .ok body := by
  -- `case1`–`case3`: the payload is what the kind's body table asks for (bincode value, raw bytes, nothing);
  -- `case4`: it is not
  fun_cases Frame.wf f with
  | case1 _ _ hp hk | case2 _ hp hk | case3 hp hk => rw [hk, hp]; exact fun _ => ⟨_, rfl⟩
  | case4 => nofun

theorem encode_ok (f : Frame) (body : Bytes)
    (hb : payloadBytes (writeBody f.kind) f.payload = .ok body)
    (hlen : body.length ≤ maxMessageSize) :
    encode f = .ok (beBytes 8 body.length ++ (UInt8.ofNat (tagOf f.kind) :: body)) := by
  simp only [encode, getLength, (bodies_agree f.kind).1, hb, Res.map, if_neg (Nat.not_lt.2 hlen), getType,
    lenMarkerSize_eq]

theorem encode_too_large (f : Frame) (body : Bytes)
    (hb : payloadBytes (writeBody f.kind) f.payload = .ok body)
    (hlen : maxMessageSize < body.length) :
    encode f = .err "payload-too-large" := by
  simp only [encode, getLength, (bodies_agree f.kind).1, hb, Res.map, if_pos hlen]

theorem tryFrom_payload (f : Frame) (body : Bytes) : f.wf = true →
    payloadBytes (writeBody f.kind) f.payload = .ok body → tryFrom (tagOf f.kind) body = .ok f := by
  simp only [tryFrom, (tag_roundtrip f.kind).1, (bodies_agree f.kind).2]
  fun_cases Frame.wf f with
  | case1 t v hp hk =>
    -- a bincode payload: the round trip of `enc` / `dec`
    simp only [hk, hp]
    intro h hb; cases hb
    rw [enc_dec_nil v t h]
    simp only [← hp]
  | case2 b hp hk =>
    simp only [hk, hp]
    intro _ hb; cases hb
    rw [← hp]
  | case3 hp hk =>
    simp only [hk, hp]
    intro _ _
    rw [← hp]
  | case4 => nofun

theorem decode_encoded (f : Frame) (body rest : Bytes) (h : f.wf = true)
    (hb : payloadBytes (writeBody f.kind) f.payload = .ok body)
    (hlen : body.length ≤ maxMessageSize) :
    decode (beBytes 8 body.length ++ (UInt8.ofNat (tagOf f.kind) :: body) ++ rest) = .ok (some f, rest) := by
  rw [decode_frame _ _ _ _ (beBytes_length 8 _) (beNat_beBytes 8 _ (Nat.lt_of_le_of_lt hlen maxMessageSize_lt)) hlen,
    UInt8.toNat_ofNat_of_lt' (tag_roundtrip f.kind).2, tryFrom_payload f body h hb]
  rfl

end Wire
end Selium
