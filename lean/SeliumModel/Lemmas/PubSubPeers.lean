import SeliumModel.Lemmas.Scan
import SeliumModel.Lemmas.PubSubRun
/-
What the router's behaviour owes to the scripts of its subscribers' sinks: sinks that never answer Pending never block
it (`Calm`, C09 / C16), and a sink that never answers with an error is never evicted (`Present`, C08). Both are
properties of the sinks that every primitive step hands on.
-/
namespace Selium.Route
open Selium.Sink
variable {α : Type}

/-- a sink that never answers Pending to poll_ready / poll_flush ("able to accept data") -/
def Calm (c : Child α) : Prop := Ans.pending ∉ c.readyQ ∧ Ans.pending ∉ c.flushQ

def CalmState (s : PS α) : Prop :=
  (∀ k ∈ s.sinks, Calm k) ∧ ∀ sock ∈ s.queue, ∀ c, sock = Sock.sink c → Calm c

theorem headD_ne {β : Type} {q : List β} {a d : β} (h : a ∉ q) (hd : d ≠ a) : q.headD d ≠ a := by
  cases q with
  | nil => exact hd
  | cons b t => exact fun e => h (e ▸ List.mem_cons_self ..)

theorem calm_afterReady (c : Child α) (h : Calm c) : Calm c.afterReady :=
  ⟨mt List.mem_of_mem_tail h.1, h.2⟩
theorem calm_afterFlush (c : Child α) (h : Calm c) : Calm c.afterFlush :=
  ⟨h.1, mt List.mem_of_mem_tail h.2⟩

theorem flushSinks_calm (s : PS α) (h : CalmState s) :
    (flushSinks s).1 = .ready ∧ CalmState (flushSinks s).2.1 :=
  ⟨(pollLoop_scan _ _ _ s.sinks).ready_of_calm fun c hc => headD_ne (h.1 c hc).2 nofun,
    (pollLoop_scan _ _ _ s.sinks).all calm_afterFlush h.1, h.2⟩

theorem adopt_calm (s : PS α) (sock : Sock α) (q : List (Sock α)) (hq : s.queue = sock :: q) (h : CalmState s) :
    CalmState (adopt s sock q) := by
  have hq' : ∀ sk ∈ q, ∀ c, sk = Sock.sink c → Calm c := fun sk hsk => h.2 sk (hq ▸ List.mem_cons_of_mem _ hsk)
  cases sock with
  | stream sc => exact ⟨h.1, hq'⟩
  | sink c =>
    refine ⟨fun k hk => ?_, hq'⟩
    rcases List.mem_append.mp hk with hk | hk
    · exact h.1 k hk
    · -- the new sink comes with the scripts it had in the queue
      rw [List.mem_singleton.mp hk]
      exact h.2 (.sink c) (hq ▸ List.mem_cons_self ..) c rfl

theorem Reach.calm {n : Nat} {s t : PS α} (hr : Reach n s t) (h : CalmState s) : CalmState t := by
  induction hr with
  | refl => exact h
  | ready _ ih => exact ih ⟨(pollLoop_scan _ _ _ _).all calm_afterReady h.1, h.2⟩
  -- `start_send` asks for no readiness or flush answer
  | send x _ _ ih => exact ih ⟨(sendLoop_scan x _).all (fun _ hc => hc) h.1, h.2⟩
  | flush _ ih => exact ih (flushSinks_calm _ h).2
  | adopt sock q _ hq _ ih => exact ih (adopt_calm _ sock q hq h)
  | reg _ ih | item _ _ _ _ _ _ _ _ _ _ ih | polled _ _ _ _ _ _ _ _ _ ih => exact ih h

theorem pollFuel_calm (fuel : Nat) (o : List Nat) (s : PS α) (h : CalmState s) :
    (pollFuel fuel o s).1 ≠ .blockedOnSink := by
  obtain ⟨n, t, hr, hf, _⟩ := pollFuel_run fuel o s
  have ht := hr.calm h
  generalize (pollFuel fuel o s).1 = out, (pollFuel fuel o s).2.1 = s' at hf ⊢
  cases hf with
  | outOfFuel | done | idle | waiting => simp
  | notReady x _ hp =>
    have : (pollReady t.sinks).1 = .ready :=
      (pollLoop_scan _ _ _ _).ready_of_calm (fun c hc => headD_ne (ht.1 c hc).1 nofun)
    rw [this] at hp; cases hp
  | notFlushed hp => rw [(flushSinks_calm _ ht).1] at hp; cases hp

def Present (id : Nat) (sinks : List (Child α)) : Prop := ∃ k ∈ sinks, k.id = id ∧ k.Healthy

theorem healthy_readyAns (c : Child α) (h : c.Healthy) : c.readyAns ≠ .err := headD_ne h.1 nofun

theorem healthy_flushAns (c : Child α) (h : c.Healthy) : c.flushAns ≠ .err := headD_ne h.2.2.1 nofun

theorem healthy_sendOk (c : Child α) (h : c.Healthy) : c.sendOk = true := Bool.of_not_eq_false (headD_ne h.2.1 nofun)

theorem healthy_afterReady (c : Child α) (h : c.Healthy) : c.afterReady.Healthy ∧ c.afterReady.id = c.id :=
  ⟨⟨mt List.mem_of_mem_tail h.1, h.2.1, h.2.2.1, h.2.2.2⟩, rfl⟩
theorem healthy_afterFlush (c : Child α) (h : c.Healthy) : c.afterFlush.Healthy ∧ c.afterFlush.id = c.id :=
  ⟨⟨h.1, h.2.1, mt List.mem_of_mem_tail h.2.2.1, h.2.2.2⟩, rfl⟩
theorem healthy_afterSend (c : Child α) (x : α) (h : c.Healthy) : (c.afterSend x).Healthy ∧ (c.afterSend x).id = c.id :=
  ⟨⟨h.1, mt List.mem_of_mem_tail h.2.1, h.2.2.1, h.2.2.2⟩, rfl⟩

theorem present_poll (ans : Child α → Ans) (step : Child α → Child α) (ev : Nat → Ans → Ev α)
    (hans : ∀ c, c.Healthy → ans c ≠ .err) (hstep : ∀ c, c.Healthy → (step c).Healthy ∧ (step c).id = c.id)
    (id : Nat) (sinks : List (Child α)) (h : Present id sinks) :
    Present id (pollLoop ans step ev [] sinks).2.1 := by
  obtain ⟨k, hk, hid, hh⟩ := h
  rcases (pollLoop_scan ans step ev sinks).keeps k hk (hans k hh) with h1 | ⟨h1, _⟩
  · exact ⟨step k, h1, by rw [(hstep k hh).2, hid], (hstep k hh).1⟩
  · exact ⟨k, h1, hid, hh⟩

theorem present_send (x : α) (id : Nat) (sinks : List (Child α)) (h : Present id sinks) :
    Present id (startSend x sinks).1 := by
  obtain ⟨k, hk, hid, hh⟩ := h
  exact ⟨k.afterSend x, startSend_keeps x sinks k hk (healthy_sendOk k hh),
    by rw [(healthy_afterSend k x hh).2, hid], (healthy_afterSend k x hh).1⟩

theorem present_adopt (id : Nat) (s : PS α) (sock : Sock α) (q : List (Sock α)) (h : Present id s.sinks) :
    Present id (adopt s sock q).sinks := by
  cases sock with
  | stream sc => exact h
  | sink c =>
    obtain ⟨k, hk, hid, hh⟩ := h
    exact ⟨k, List.mem_append_left _ hk, hid, hh⟩

theorem Reach.present {n : Nat} {s t : PS α} (hr : Reach n s t) (id : Nat) (h : Present id s.sinks) :
    Present id t.sinks := by
  induction hr with
  | refl => exact h
  | ready _ ih => exact ih (present_poll _ _ Ev.ready healthy_readyAns healthy_afterReady id _ h)
  | send x _ _ ih => exact ih (present_send x id _ h)
  | flush _ ih => exact ih (present_poll _ _ Ev.flush healthy_flushAns healthy_afterFlush id _ h)
  | adopt sock q _ _ _ ih => exact ih (present_adopt id _ sock q h)
  | reg _ ih | item _ _ _ _ _ _ _ _ _ _ ih | polled _ _ _ _ _ _ _ _ _ ih => exact ih h

end Selium.Route
