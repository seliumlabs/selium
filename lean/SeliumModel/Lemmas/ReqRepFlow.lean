import SeliumModel.Route.ReqRep
/-
Hoare-style reasoning for the request/reply loop. A block of the loop body ends in one of three ways (`Flow`);
`Flow.Post R N A` gives one postcondition per way. What a block / an iteration / a poll leaves behind is stated as an
instance, composed with `Post.andThen` and lifted to polls by `rrPoll_post`.
-/
namespace Selium.Route
open Selium.Sink

/-- `R o s` if the block returns from `poll` with outcome `o`, `N s` if it falls through to the next block,
    `A s` if it starts the loop over. -/
def Flow.Post (R : ROutcome → RR → Prop) (N A : RR → Prop) : Flow → Prop
  | .ret o s => R o s
  | .next s => N s
  | .again s => A s

namespace Flow.Post
variable {R R' : ROutcome → RR → Prop} {N N' A A' : RR → Prop} {f : Flow} {g : RR → Flow}

theorem andThen (hf : f.Post R N A) (hg : ∀ s, N s → (g s).Post R N' A) : (f.andThen g).Post R N' A := by
  cases f with
  | next s => exact hg s hf
  | ret o s => exact hf
  | again s => exact hf

theorem mono (h : f.Post R N A) (hR : ∀ o s, R o s → R' o s) (hN : ∀ s, N s → N' s) (hA : ∀ s, A s → A' s) :
    f.Post R' N' A' := by
  cases f with
  | next s => exact hN s h
  | ret o s => exact hR o s h
  | again s => exact hA s h

theorem of_state {P : RR → Prop} (h : P f.state) : f.Post (fun _ => P) P P := by
  cases f <;> exact h

theorem state {P : RR → Prop} (h : f.Post (fun _ => P) P P) : P f.state := by
  cases f <;> exact h

end Flow.Post

theorem iter_post {R : ROutcome → RR → Prop} {A N₁ N₂ N₃ N₄ N₅ N₆ N₇ : RR → Prop} (s : RR)
    (hA : (partA { s with serverPending := s.server.isNone, streamPending := false }).Post R N₁ A)
    (hB : ∀ t, N₁ t → (partB t).Post R N₂ A) (hH : ∀ t, N₂ t → (partH t).Post R N₃ A)
    (hD : ∀ t, N₃ t → (partD t).Post R N₄ A) (hE : ∀ t, N₄ t → (partE t).Post R N₅ A)
    (hF : ∀ t, N₅ t → (partF t).Post R N₆ A) (hG : ∀ t, N₆ t → (partG t).Post R N₇ A) :
    (iter s).Post R N₇ A :=
  (((((hA.andThen hB).andThen hH).andThen hD).andThen hE).andThen hF).andThen hG

theorem rrPoll_post {I : RR → Prop} {R : ROutcome → RR → Prop} (hiter : ∀ s, I s → (iter s).Post R I I)
    (hfuel : ∀ s, I s → R .outOfFuel s) (fuel : Nat) (s : RR) (h : I s) :
    R (rrPoll fuel s).1 (rrPoll fuel s).2 := by
  induction fuel generalizing s with
  | zero => exact hfuel s h
  | succ fuel ih =>
    have := hiter s h
    unfold rrPoll
    cases hi : iter s with
    | ret o s' => rw [hi] at this; exact this
    | next s' => rw [hi] at this; exact ih s' this
    | again s' => rw [hi] at this; exact ih s' this

/-- `P` does not read what is set from outside the blocks: the registration channel (`Topic::pair()`'s sender
    enqueues and closes), the oracles handed to a poll, the loop-local flags. `handleReg` belongs to the channel: it says
    whether the channel holds the task's waker. Block H sets it when it finds the channel empty, but every enqueue and
    the close reset it, so a `P` that is to survive the environment cannot read it either. -/
def EnvIndep (P : RR → Prop) : Prop :=
  ∀ s q c hr so ko sp tp, P s →
    P { s with queue := q, closed := c, handleReg := hr, so := so, ko := ko, serverPending := sp, streamPending := tp }

theorem rrExec_inv {P : RR → Prop} (init : P {}) (env : EnvIndep P) (poll : ∀ fuel s, P s → P (rrPoll fuel s).2)
    (evs : List REvent) : P (rrExec evs) := by
  refine List.foldlRecOn evs rrApply init fun s h e _ => ?_
  cases e with
  | enqueue sock =>
    show P (if s.closed then s else _)
    split
    · exact h
    · exact env s _ s.closed false s.so s.ko s.serverPending s.streamPending h
  | close => exact env s s.queue true false s.so s.ko s.serverPending s.streamPending h
  | poll fuel so ko => exact poll fuel _ (env s s.queue s.closed s.handleReg so ko s.serverPending s.streamPending h)

structure Invariant (P : RR → Prop) : Prop where
  init : P {}
  env : EnvIndep P
  partA : ∀ s, P s → P (partA s).state
  partB : ∀ s, P s → P (partB s).state
  partH : ∀ s, P s → P (partH s).state
  partD : ∀ s, P s → P (partD s).state
  partE : ∀ s, P s → P (partE s).state
  partF : ∀ s, P s → P (partF s).state
  partG : ∀ s, P s → P (partG s).state

namespace Invariant
variable {P : RR → Prop} (inv : Invariant P)
include inv

theorem iter (s : RR) (h : P s) : P (iter s).state :=
  (iter_post s (.of_state (inv.partA _ (inv.env s s.queue s.closed s.handleReg s.so s.ko _ _ h)))
    (fun t h => .of_state (inv.partB t h)) (fun t h => .of_state (inv.partH t h)) (fun t h => .of_state (inv.partD t h))
    (fun t h => .of_state (inv.partE t h)) (fun t h => .of_state (inv.partF t h))
    (fun t h => .of_state (inv.partG t h))).state

theorem poll (fuel : Nat) (s : RR) (h : P s) : P (rrPoll fuel s).2 :=
  rrPoll_post (R := fun _ => P) (fun s h => .of_state (inv.iter s h)) (fun _ h => h) fuel s h

theorem exec (evs : List REvent) : P (rrExec evs) := rrExec_inv inv.init inv.env inv.poll evs

end Invariant

end Selium.Route
