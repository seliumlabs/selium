import SeliumModel.Topic.Name

namespace Selium.Topic
open Selium Selium.Gen.Topic

/-! Obligations on the regenerated regex data. -/

theorem sep_eq : sep1 = 47 ∧ sep2 = 47 := by decide

/-- a namespace cannot swallow the separator -/
theorem sep_not_in_ns : inClass nsClass sep2 = false := by decide +kernel

/-- the client-side grammar (TOPIC_REGEX) and the server-side rule (COMPONENT_REGEX) use the same class and
    the same bounds for both components -/
theorem same_rule : nsClass = compClass ∧ tpClass = compClass ∧ nsMin = compMin ∧ nsMax = compMax ∧
    tpMin = compMin ∧ tpMax = compMax := ⟨rfl, rfl, rfl, rfl, rfl, rfl⟩

theorem sep_not_reserved : reserved.all (fun c => c != sep2) = true := by decide

/-- the repaired `try_from` slices with `value.get(1..)` -/
theorem checked_slice : checkedSlice = true := by decide

theorem isPrefixOf_append_stop (p a : List Nat) (c : Nat) (b : List Nat) (hc : p.all (fun x => x != c) = true) :
    p.isPrefixOf (a ++ c :: b) = p.isPrefixOf a := by
  induction p generalizing a with
  | nil => rfl
  | cons x xs ih =>
    rw [List.all_cons, Bool.and_eq_true] at hc
    cases a with
    | nil => rw [List.nil_append, List.isPrefixOf_cons_cons, beq_false_of_ne (bne_iff_ne.1 hc.1)]; rfl
    | cons y ys => rw [List.cons_append, List.isPrefixOf_cons_cons, List.isPrefixOf_cons_cons, ih ys hc.2]

/-- `comp x`: 3 to 64 characters (in characters, not bytes), each in the class `[\w-]`. The body is that of `compMatch`
    (`Topic/Name.lean`, the server's `COMPONENT_REGEX.is_match`): `comp = compMatch` holds by `rfl`, and
    `c07_server_same_rule` passes from one to the other by unfolding both. -/
def comp (s : Str) : Bool := isComp compClass compMin compMax s

theorem comp_ne_sep (s : Str) (h : isComp nsClass nsMin nsMax s = true) : ∀ x ∈ s, (x != sep2) = true := by
  intro x hx
  rw [isComp, Bool.and_eq_true, List.all_eq_true] at h
  -- `x` is in the class, the separator is not
  exact bne_iff_ne.2 fun he => Bool.false_ne_true (sep_not_in_ns ▸ he ▸ h.2 x hx)

theorem topicCaptures_iff (value ns tp : Str) :
    topicCaptures value = some (ns, tp) ↔ value = display ns tp ∧ comp ns = true ∧ comp tp = true := by
  -- `display` and `comp` in the regex's own separators, classes and bounds: Lean checks this line by unfolding the
  -- regenerated constants, so it stands exactly as long as `sep_eq` and `same_rule` do (rewriting with them is dearer)
  show _ ↔ value = sep1 :: (ns ++ sep2 :: tp) ∧ isComp nsClass nsMin nsMax ns = true ∧ isComp tpClass tpMin tpMax tp = true
  constructor
  · fun_cases topicCaptures value with
    | case3 rest d b hd hcomp =>
      intro h; cases h
      rw [Bool.and_eq_true] at hcomp
      refine ⟨?_, hcomp.1, hcomp.2⟩
      -- the element the scan stopped at is the separator
      have hdsep : d = sep2 := by
        have := List.head_dropWhile_not (· != sep2) (l := rest) (by rw [hd]; simp)
        simpa [hd] using this
      subst hdsep
      rw [← hd, List.takeWhile_append_dropWhile]
    | _ => exact nofun
  · rintro ⟨rfl, hns, htp⟩
    -- the scan for the second separator runs over the namespace and stops behind it
    have hne := comp_ne_sep ns hns
    have hsep : ¬(sep2 != sep2) = true := by rw [bne_self_eq_false]; exact Bool.false_ne_true
    rw [topicCaptures, if_pos rfl, List.dropWhile_append_of_pos hne, List.dropWhile_cons_of_neg (p := (· != sep2)) hsep,
      List.takeWhile_append_of_pos hne, List.takeWhile_cons_of_neg (p := (· != sep2)) hsep, List.append_nil, hns]
    simp only [htp, Bool.and_self, if_true]

theorem tryFrom_captures {s : Str} {r : Str × Str} : tryFrom s = .ok r → topicCaptures s = some r := by
  -- the arms of `tryFrom`: `case1` the empty string; `case2` first character one byte, the reserved word behind it;
  -- `case3`, `case4` first character one byte, not reserved, the regex captures / does not; `case5`, `case6` first
  -- character several bytes, `checkedSlice`, the regex captures / does not; `case7` the unchecked slice (the panic)
  fun_cases tryFrom s with
  | case3 _ _ _ _ _ hcap | case5 _ _ _ _ _ hcap => rw [hcap]; intro h; cases h; rfl
  | case4 _ _ _ _ hcap | case6 _ _ _ _ hcap => rw [hcap]; exact nofun
  | _ => exact nofun

/-- on a string the regex captures: the separator in front is one byte, so the reserved word is looked for behind it —
    where, holding no separator itself, it can only be the beginning of the namespace -/
theorem tryFrom_display {ns tp : Str} {r : Str × Str} (h : topicCaptures (display ns tp) = some r) :
    tryFrom (display ns tp) = if reserved.isPrefixOf ns then .err "reserved" else .ok r := by
  rw [display] at h ⊢
  rw [tryFrom, if_pos (by decide), h, isPrefixOf_append_stop _ _ _ _ (sep_eq.2 ▸ sep_not_reserved)]

end Selium.Topic
