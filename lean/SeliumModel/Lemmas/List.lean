/- Facts about lists that the library does not have. -/
namespace Selium

theorem perm_cons_eraseIdx {β : Type} {l : List β} {i : Nat} {c : β} (h : l[i]? = some c) : l.Perm (c :: l.eraseIdx i) := by
  induction l generalizing i with
  | nil => cases h
  | cons a l ih =>
    cases i with
    | zero => cases h; exact .refl _
    | succ i => exact ((ih h).cons a).trans (.swap ..)

theorem set_perm_cons_eraseIdx {β : Type} {l : List β} {i : Nat} (h : i < l.length) (b : β) :
    (l.set i b).Perm (b :: l.eraseIdx i) := by
  have := perm_cons_eraseIdx (l := l.set i b) (List.getElem?_set_self h)
  rwa [List.eraseIdx_set_eq] at this

theorem eq_of_map_eq_of_nodup {β γ : Type} {f : β → γ} {l : List β} (hn : (l.map f).Nodup) {a b : β}
    (ha : a ∈ l) (hb : b ∈ l) (h : f a = f b) : a = b :=
  have hp := List.pairwise_map.mp hn
  List.Pairwise.forall_of_forall_of_flip (R := fun a b => f a = f b → a = b) (fun _ _ _ => rfl)
    (hp.imp fun hne e => absurd e hne) (hp.imp fun hne e => absurd e.symm hne) ha hb h

/-- for `Router`'s `choose`, `StreamMap`'s `indexOfId` -/
theorem findIdx?_getD_lt {β : Type} {l : List β} (p : β → Bool) (h : l ≠ []) : (l.findIdx? p).getD 0 < l.length := by
  cases hf : l.findIdx? p with
  | none => exact List.length_pos_iff.mpr h
  | some i => exact (List.findIdx?_eq_some_iff_findIdx_eq.mp hf).1

end Selium
