import SeliumModel.Server.System
import SeliumModel.Lemmas.Registry
/-
The whole server is the product of its topics' routers: inside any history of the server the state of topic `n`'s router is
what the single-router model (`Route.exec` / `Route.rrExec`) computes from the events addressed to `n`, so every theorem
about one router's histories (C01, C02, C08, C09, C10, C16) holds for every topic of a running server; and that state, with
the topic's entry in the registry, is the same as if the events that do not mention `n` had never happened.
-/
namespace Selium.Server
open Selium Selium.Route Selium.Sink Selium.Topic Selium.Gen.Server

theorem foldl_ite {β ε : Type} (f : β → ε → β) (c : Prop) [Decidable c] (e : ε) (x : β) :
    (if c then [e] else []).foldl f x = if c then f x e else x := by
  split <;> rfl

/-- both routers of topic `n` at once: `sysApply` and `psEvents` / `rrEvents` branch on the same tests, and each event
    changes at most one of the two -/
theorem sys_is_router_from (n : Name) (es : List SEvent) : ∀ s : Srv,
    (es.foldl sysApply s).ps n = (psEvents n s.registry es).foldl applyEvent (s.ps n) ∧
    (es.foldl sysApply s).rr n = (rrEvents n s.registry es).foldl rrApply (s.rr n) := by
  induction es with
  | nil => intro s; exact ⟨rfl, rfl⟩
  | cons e es ih =>
    intro s
    simp only [List.foldl_cons]
    rw [(ih _).1, (ih _).2]
    cases e with
    | openStream first sink stream =>
      simp only [psEvents, rrEvents, List.foldl_append]
      cases henq : (handleStream s.registry first).enqueued with
      | none => simp [sysApply, henq]
      | some mr =>
        obtain ⟨m, role⟩ := mr
        by_cases hmn : m = n
        · subst hmn; cases hp : role.pattern <;> simp [sysApply, henq, hp, upd]
        · cases hp : role.pattern <;> simp [sysApply, henq, hp, upd, hmn, Ne.symm hmn]
    | pollPubsub m fuel oracle =>
      simp only [psEvents, rrEvents, List.foldl_append]
      by_cases hl : s.registry.lookup m = some .pubsub
      · by_cases hmn : m = n
        · subst hmn; simp [sysApply, hl, upd]
        · simp [sysApply, hl, upd, hmn, Ne.symm hmn]
      · simp [sysApply, hl]
    | pollReqrep m fuel so ko =>
      simp only [psEvents, rrEvents, List.foldl_append]
      by_cases hl : s.registry.lookup m = some .reqrep
      · by_cases hmn : m = n
        · subst hmn; simp [sysApply, hl, upd]
        · simp [sysApply, hl, upd, hmn, Ne.symm hmn]
      · simp [sysApply, hl]
    | shutdown =>
      simp only [psEvents, rrEvents, List.foldl_append]
      exact ⟨by rw [foldl_ite]; rfl, by rw [foldl_ite]; rfl⟩

theorem sys_ps_is_router (n : Name) (history : List SEvent) :
    (sysExec history).ps n = Route.exec (psEvents n [] history) := (sys_is_router_from n history {}).1

theorem sys_rr_is_router (n : Name) (history : List SEvent) :
    (sysExec history).rr n = Route.rrExec (rrEvents n [] history) := (sys_is_router_from n history {}).2

def Agree (n : Name) (s t : Srv) : Prop :=
  s.registry.lookup n = t.registry.lookup n ∧ s.ps n = t.ps n ∧ s.rr n = t.rr n

theorem Agree.refl (n : Name) (s : Srv) : Agree n s s := ⟨rfl, rfl, rfl⟩

theorem Agree.trans {n : Name} {a b c : Srv} (h1 : Agree n a b) (h2 : Agree n b c) : Agree n a c :=
  ⟨h1.1.trans h2.1, h1.2.1.trans h2.2.1, h1.2.2.trans h2.2.2⟩

theorem upd_other {β : Type} (f : Name → β) {m n : Name} (v : β) (h : m ≠ n) : upd f m v n = f n := if_neg (Ne.symm h)

theorem upd_congr {β : Type} {f g : Name → β} {n : Name} (h : f n = g n) (m : Name) {v w : β} (hv : m = n → v = w) :
    upd f m v n = upd g m w n := by
  unfold upd
  split
  · rename_i e; exact hv e.symm
  · exact h

theorem agree_step_mentions (n : Name) (s t : Srv) (e : SEvent) (hm : mentions n e = true) (h : Agree n s t) :
    Agree n (sysApply s e) (sysApply t e) := by
  obtain ⟨h1, h2, h3⟩ := h
  cases e with
  | openStream first sink stream =>
    cases first with
    | none => cases hm
    | some fr =>
      cases fr with
      | other => cases hm
      | register role m =>
        obtain rfl : m = n := of_decide_eq_true hm
        obtain ⟨he, _, hr⟩ := handleStream_local s.registry t.registry role m h1
        simp only [sysApply]
        rw [← he]
        cases (handleStream s.registry (some (.register role m))).enqueued with
        | none => exact ⟨hr, h2, h3⟩
        | some mr =>
          obtain ⟨m', role'⟩ := mr
          cases hp : role'.pattern with
          | pubsub => simp only [hp]; exact ⟨hr, upd_congr h2 m' fun e => by rw [e, h2], h3⟩
          | reqrep => simp only [hp]; exact ⟨hr, h2, upd_congr h3 m' fun e => by rw [e, h3]⟩
  | pollPubsub m fuel oracle =>
    obtain rfl : m = n := of_decide_eq_true hm
    simp only [sysApply]
    rw [← h1]
    split
    · exact ⟨h1, upd_congr h2 m fun _ => by rw [h2], h3⟩
    · exact ⟨h1, h2, h3⟩
  | pollReqrep m fuel so ko =>
    obtain rfl : m = n := of_decide_eq_true hm
    simp only [sysApply]
    rw [← h1]
    split
    · exact ⟨h1, h2, upd_congr h3 m fun _ => by rw [h3]⟩
    · exact ⟨h1, h2, h3⟩
  | shutdown =>
    simp only [sysApply]
    exact ⟨h1, by simp only; rw [h1, h2], by simp only; rw [h1, h3]⟩

theorem agree_step_other (n : Name) (s : Srv) (e : SEvent) (hm : mentions n e = false) :
    Agree n (sysApply s e) s := by
  cases e with
  | openStream first sink stream =>
    have hiso := handleStream_other s.registry first n (by
      intro role hf; subst hf; simp [mentions] at hm)
    simp only [sysApply]
    cases henq : (handleStream s.registry first).enqueued with
    | none => exact ⟨hiso.1, rfl, rfl⟩
    | some mr =>
      obtain ⟨m, role⟩ := mr
      have hne : m ≠ n := fun heq => hiso.2 role (heq ▸ henq)
      cases hp : role.pattern with
      | pubsub => simp only [hp]; exact ⟨hiso.1, upd_other _ _ hne, rfl⟩
      | reqrep => simp only [hp]; exact ⟨hiso.1, rfl, upd_other _ _ hne⟩
  | pollPubsub m fuel oracle =>
    have hne : m ≠ n := of_decide_eq_false hm
    simp only [sysApply]
    split
    · exact ⟨rfl, upd_other _ _ hne, rfl⟩
    · exact Agree.refl n s
  | pollReqrep m fuel so ko =>
    have hne : m ≠ n := of_decide_eq_false hm
    simp only [sysApply]
    split
    · exact ⟨rfl, rfl, upd_other _ _ hne⟩
    · exact Agree.refl n s
  | shutdown => cases hm

theorem agree_fold (n : Name) (es : List SEvent) : ∀ s t : Srv, Agree n s t →
    Agree n (es.foldl sysApply s) ((es.filter (mentions n)).foldl sysApply t) := by
  induction es with
  | nil => intro s t h; exact h
  | cons e es ih =>
    intro s t h
    simp only [List.foldl_cons, List.filter_cons]
    by_cases hm : mentions n e = true
    · simp only [hm, if_true, List.foldl_cons]
      exact ih _ _ (agree_step_mentions n s t e hm h)
    · have hm' : mentions n e = false := by simpa using hm
      simp only [hm', Bool.false_eq_true, if_false]
      exact ih _ _ ((agree_step_other n s e hm').trans h)

theorem sys_topic_independent (n : Name) (history : List SEvent) :
    (sysExec history).registry.lookup n = (sysExec (history.filter (mentions n))).registry.lookup n ∧
    (sysExec history).ps n = (sysExec (history.filter (mentions n))).ps n ∧
    (sysExec history).rr n = (sysExec (history.filter (mentions n))).rr n :=
  agree_fold n history {} {} (Agree.refl n {})

theorem sysExec_snoc (history : List SEvent) (e : SEvent) : sysExec (history ++ [e]) = sysApply (sysExec history) e :=
  List.foldl_append ..

end Selium.Server
