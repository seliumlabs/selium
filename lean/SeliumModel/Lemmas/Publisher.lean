import SeliumModel.Client.PubSubClient
import SeliumModel.Lemmas.Codecs
import SeliumModel.Lemmas.Batch
/-
The publisher's accounting (C03): the invariant `Pub.Accounted`, kept by every `Sink` operation that returns `Ok`.
-/
namespace Selium.Client
open Selium Selium.Wire

variable {α : Type}

/-- message sizes representable in the batch format (`usize`) -/
def Fits (ms : List Bytes) : Prop := ms.length < 256 ^ 8 ∧ ∀ m ∈ ms, m.length < 256 ^ 8

theorem subscriberOutputs_append (c : Codec α) (z : Compressor) (xs ys : List WFrame)
    (h : ∀ f ∈ xs, f ≠ WFrame.other) :
    subscriberOutputs c z (xs ++ ys) = subscriberOutputs c z xs ++ subscriberOutputs c z ys := by
  induction xs with
  | nil => rfl
  | cons f fs ih =>
    have ih := ih fun g hg => h g (List.mem_cons_of_mem _ hg)
    cases f with
    | message b => simp only [List.cons_append, subscriberOutputs, ih]
    | batch b => simp only [List.cons_append, subscriberOutputs, ih, List.append_assoc]
    | other => exact absurd rfl (h _ List.mem_cons_self)

theorem Pub.sendBatch_ok {z : Compressor} {lim : Nat} {p p' : Pub} {ms : List Bytes} (h : p.sendBatch z lim ms = .ok p') :
    ∃ w, z.compress (encodeBatch ms) = .ok w ∧ frameFits lim (.batch w) = true ∧
      p' = { p with batch := some [], framed := p.framed ++ [.batch w] } := by
  unfold Pub.sendBatch at h
  split at h
  next w hw =>
    split at h
    next hf => exact ⟨w, hw, hf, (Res.ok.inj h).symm⟩
    next => cases h
  all_goals cases h

theorem Pub.feed_ok {c : Codec α} {z : Compressor} {lim : Nat} {p p' : Pub} {e : Bool} {a : α}
    (h : p.feed c z lim e a = .ok p') : ∃ p1, p.pollReady z lim e = .ok p1 ∧ p1.startSend c z lim a = .ok p' := by
  unfold Pub.feed at h
  split at h
  next p1 h1 => exact ⟨p1, h1, h⟩
  all_goals cases h

theorem Pub.send_ok {c : Codec α} {z : Compressor} {lim : Nat} {p p' : Pub} {e : Bool} {a : α}
    (h : p.send c z lim e a = .ok p') : ∃ p2, p.feed c z lim e a = .ok p2 ∧ p2.flush = p' := by
  unfold Pub.send at h
  unfold Pub.feed
  split at h
  next p1 h1 =>
    split at h
    next p2 h2 => exact ⟨p2, h2, Res.ok.inj h⟩
    all_goals cases h
  all_goals cases h

theorem Pub.applyAll_cons_ok {c : Codec α} {z : Compressor} {lim : Nat} {p p' : Pub} {op : PubOp α} {ops : List (PubOp α)}
    (h : p.applyAll c z lim (op :: ops) = .ok p') :
    ∃ p1, p.apply c z lim op = .ok p1 ∧ p1.applyAll c z lim ops = .ok p' := by
  rw [Pub.applyAll] at h
  split at h
  next p1 h1 => exact ⟨p1, h1, h⟩
  all_goals cases h

theorem Pub.sendAll_eq_applyAll (c : Codec α) (z : Compressor) (lim : Nat) (p : Pub) (items : List (Bool × α)) :
    p.sendAll c z lim items = p.applyAll c z lim (items.map fun x => .send x.1 x.2) := by
  induction items generalizing p with
  | nil => rfl
  | cons x xs ih =>
    simp only [Pub.sendAll, List.map_cons, Pub.applyAll, Pub.apply]
    cases p.send c z lim x.1 x.2 <;> simp [ih]

section accounting
variable (c : Codec α) (z : Compressor) (all : List α)

/-- `all` is everything the run will have accepted in the end; the sizes of the batch format need only be respected by
    the encodings of runs of consecutive items of `all`: those are the only lists that are ever batched. -/
def RunsFit : Prop := ∀ pend : List α, pend <:+: all → ∀ ms, mapRes c.encode pend = .ok ms → Fits ms

/-- The accounting, for `frames` written so far and the messages `batch` still batched: what a subscriber would yield for
    the frames, followed by what the batched messages decode to, is the accepted items in order. The batched messages
    are the encodings of the last items accepted (`enc`). -/
structure Accounts (frames : List WFrame) (batch : List Bytes) (sent : List α) : Prop where
  noOther : ∀ f ∈ frames, f ≠ WFrame.other
  pre : sent <+: all
  enc : ∃ pend : List α, pend <:+ sent ∧ mapRes c.encode pend = .ok batch
  acc : subscriberOutputs c z frames ++ batch.map c.decode = sent.map Res.ok

/-- `wire` and `framed` are read only as `wire ++ framed`, the frames written, which a flush leaves as they are -/
def Pub.Accounted (p : Pub) (sent : List α) : Prop := Accounts c z all (p.wire ++ p.framed) (p.batch.getD []) sent

theorem Pub.accounted_ofConfig (cfg : Option Nat) : Pub.Accounted c z all (Pub.ofConfig cfg) [] := by
  cases cfg <;> exact ⟨fun _ h => absurd h List.not_mem_nil, List.nil_prefix, ⟨[], List.nil_suffix, rfl⟩, rfl⟩

variable {c z all}

theorem Accounts.batched {fs : List WFrame} {ms : List Bytes} {sent : List α} (h : Accounts c z all fs ms sent) {a : α}
    {b : Bytes} (he : c.encode a = .ok b) (hd : c.decode b = .ok a) (hpre : sent ++ [a] <+: all) :
    Accounts c z all fs (ms ++ [b]) (sent ++ [a]) := by
  obtain ⟨pend, ⟨t, ht⟩, hp⟩ := h.enc
  refine ⟨h.noOther, hpre, ⟨pend ++ [a], ⟨t, by rw [← List.append_assoc, ht]⟩, ?_⟩, ?_⟩
  · exact mapRes_append_ok c.encode pend [a] ms [b] hp (by rw [mapRes, he]; rfl)
  · rw [List.map_append, ← List.append_assoc, h.acc, List.map_append, List.map_singleton, hd]; rfl

/-- a frame `f` is written and the batch emptied: `f` has to yield what the batch held, then the items `new` accepted
    with it -/
theorem Accounts.written {fs : List WFrame} {ms : List Bytes} {sent sent' : List α} (h : Accounts c z all fs ms sent)
    {f : WFrame} (hf : f ≠ .other) (new : List α) (hout : subscriberOutputs c z [f] = ms.map c.decode ++ new.map Res.ok)
    (hs : sent' = sent ++ new) (hpre : sent' <+: all) : Accounts c z all (fs ++ [f]) [] sent' := by
  subst hs
  refine ⟨?_, hpre, ⟨[], List.nil_suffix, rfl⟩, ?_⟩
  · intro g hg
    rcases List.mem_append.1 hg with hg | hg
    · exact h.noOther g hg
    · exact List.mem_singleton.1 hg ▸ hf
  · rw [subscriberOutputs_append c z _ _ h.noOther, hout, ← List.append_assoc, h.acc, List.map_append]; exact List.append_nil _

theorem flush_inv {p : Pub} {sent : List α} (h : Pub.Accounted c z all p sent) : Pub.Accounted c z all p.flush sent :=
  show Accounts c z all (p.wire ++ p.framed ++ []) _ sent from (List.append_nil _).symm ▸ h

theorem sendBatch_inv (hz : z.Lossless) {lim : Nat} (hfit : RunsFit c all)
    {p : Pub} {sent : List α} (h : Pub.Accounted c z all p sent) (ms : List Bytes) (hb : p.batch = some ms)
    (p' : Pub) (hok : p.sendBatch z lim ms = .ok p') : Pub.Accounted c z all p' sent ∧ p'.batch = some [] := by
  obtain ⟨w, hw, -, rfl⟩ := Pub.sendBatch_ok hok
  obtain ⟨w', hcz, hdz⟩ := hz (encodeBatch ms)
  obtain rfl : w' = w := Res.ok.inj (hcz.symm.trans hw)
  unfold Pub.Accounted at h
  rw [hb] at h
  obtain ⟨pend, hsuf, hp⟩ := h.enc
  have hfits := hfit pend (hsuf.isInfix.trans h.pre.isInfix) ms hp
  have := h.written (f := .batch w') nofun []
    (by simp only [subscriberOutputs, hdz, decodeBatch_encodeBatch ms hfits.1 hfits.2]; rfl)
    (List.append_nil sent).symm h.pre
  rw [List.append_assoc] at this
  exact ⟨this, rfl⟩

theorem pollReady_inv (hz : z.Lossless) {lim : Nat} (hfit : RunsFit c all)
    {p : Pub} {sent : List α} (h : Pub.Accounted c z all p sent) (elapsed : Bool) (p1 : Pub)
    (hr1 : p.pollReady z lim elapsed = .ok p1) : Pub.Accounted c z all p1 sent := by
  unfold Pub.pollReady at hr1
  split at hr1
  next ms hb =>
    split at hr1
    · exact (sendBatch_inv hz hfit h ms hb p1 hr1).1
    · exact Res.ok.inj hr1 ▸ h
  next => exact Res.ok.inj hr1 ▸ h

theorem startSend_inv {good : α → Prop} (hc : c.Lossless good) (hz : z.Lossless) {lim : Nat} {p : Pub} {sent : List α}
    (h : Pub.Accounted c z all p sent) (a : α) (ha : good a) (hpre : sent ++ [a] <+: all) (p' : Pub)
    (hok : p.startSend c z lim a = .ok p') : Pub.Accounted c z all p' (sent ++ [a]) := by
  obtain ⟨b, he, hd⟩ := hc a ha
  unfold Pub.startSend at hok
  unfold Pub.Accounted at h
  rw [he] at hok
  cases hb : p.batch with
  | some ms =>
    rw [hb] at h
    simp only [hb, Res.ok.injEq] at hok
    subst hok
    exact h.batched he hd hpre
  | none =>
    obtain ⟨w, hcz, hdz⟩ := hz b
    rw [hb] at h
    simp only [hb, hcz] at hok
    split at hok
    case isFalse => cases hok
    cases hok
    have := h.written (f := .message w) nofun [a] (by simp only [subscriberOutputs, hdz, hd]; rfl) rfl hpre
    rwa [List.append_assoc] at this

theorem apply_inv {good : α → Prop} (hc : c.Lossless good) (hz : z.Lossless) {lim : Nat} (hfit : RunsFit c all)
    {p : Pub} {sent : List α} (h : Pub.Accounted c z all p sent) (op : PubOp α) (hop : ∀ a ∈ op.item, good a)
    (hpre : sent ++ op.item <+: all) (p' : Pub) (hok : p.apply c z lim op = .ok p') :
    Pub.Accounted c z all p' (sent ++ op.item) := by
  have hfeed : ∀ e a p', good a → sent ++ [a] <+: all → p.feed c z lim e a = .ok p' →
      Pub.Accounted c z all p' (sent ++ [a]) := by
    intro e a p' ha hpre hok
    obtain ⟨p1, h1, h2⟩ := Pub.feed_ok hok
    exact startSend_inv hc hz (pollReady_inv hz hfit h e p1 h1) a ha hpre p' h2
  cases op with
  | send e a =>
    obtain ⟨p2, h2, rfl⟩ := Pub.send_ok hok
    exact flush_inv (hfeed e a p2 (hop a List.mem_cons_self) hpre h2)
  | feed e a => exact hfeed e a p' (hop a List.mem_cons_self) hpre hok
  | flush => cases hok; exact (List.append_nil sent).symm ▸ flush_inv h
  | ready e => exact (List.append_nil sent).symm ▸ pollReady_inv hz hfit h e p' hok

theorem applyAll_inv {good : α → Prop} (hc : c.Lossless good) (hz : z.Lossless) {lim : Nat} (hfit : RunsFit c all)
    (ops : List (PubOp α)) :
    ∀ (p : Pub) (sent : List α), (∀ op ∈ ops, ∀ a ∈ op.item, good a) → Pub.Accounted c z all p sent →
      sent ++ ops.flatMap PubOp.item <+: all →
      ∀ p', p.applyAll c z lim ops = .ok p' → Pub.Accounted c z all p' (sent ++ ops.flatMap PubOp.item) := by
  induction ops with
  | nil => intro p sent _ h _ p' hok; cases hok; exact (List.append_nil sent).symm ▸ h
  | cons op rest ih =>
    intro p sent hg h hpre p' hok
    obtain ⟨p1, h1, h2⟩ := Pub.applyAll_cons_ok hok
    rw [List.flatMap_cons, ← List.append_assoc] at hpre ⊢
    exact ih p1 _ (fun o ho => hg o (List.mem_cons_of_mem _ ho))
      (apply_inv hc hz hfit h op (hg op List.mem_cons_self) ((List.prefix_append _ _).trans hpre) p1 h1) hpre p' h2

theorem finish_spec (hz : z.Lossless) {lim : Nat} (hfit : RunsFit c all)
    {sent : List α} (p pf : Pub) (hinv : Pub.Accounted c z all p sent) (hfinish : p.finish z lim = .ok pf) :
    subscriberOutputs c z pf.wire = sent.map Res.ok ∧
      pf.framed = [] ∧ (pf.batch = none ∨ pf.batch = some []) := by
  -- `finish` is a flush of a publisher with the accounting intact and nothing batched
  have hfl : ∀ q : Pub, Pub.Accounted c z all q sent → (q.batch = none ∨ q.batch = some []) →
      subscriberOutputs c z q.flush.wire = sent.map Res.ok ∧ q.flush.framed = [] ∧
        (q.flush.batch = none ∨ q.flush.batch = some []) := by
    intro q hq hb
    refine ⟨?_, rfl, hb⟩
    have := hq.acc
    rcases hb with hb | hb <;> rw [hb] at this <;> exact (List.append_nil _).symm.trans this
  unfold Pub.finish at hfinish
  split at hfinish
  next m ms hb =>
    split at hfinish
    next p' h1 =>
      obtain ⟨h2, h3⟩ := sendBatch_inv hz hfit hinv (m :: ms) hb p' h1
      exact Res.ok.inj hfinish ▸ hfl p' h2 (.inr h3)
    all_goals cases hfinish
  next hne =>
    cases hfinish
    refine hfl p hinv ?_
    cases hb : p.batch with
    | none => exact .inl rfl
    | some ms =>
      cases ms with
      | nil => exact .inr rfl
      | cons m ms => exact absurd hb (hne m ms)

end accounting
end Selium.Client
