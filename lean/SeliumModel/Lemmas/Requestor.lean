import SeliumModel.Client.Replier
import SeliumModel.Lemmas.Digits
/-
The invariant `RqInv` of the state a `Requestor` shares with its clones (C04), kept by `call`, `arrive` and `timeout`,
hence by every history (`run_inv`); what the reader task makes of a reply that echoes the request's headers.
-/
namespace Selium.Client
open Selium

/-- `entries`: every entry of the pending map points at the call that was given that id; `keys`: the ids in the map are
    distinct; `deliv`: a reply was only ever handed to the call whose id it carries, and that call holds it (`done`);
    `once`: no call was handed two replies; `waitingPending`: a call that was handed a reply has no entry in the map -/
structure RqInv (s : Rq) : Prop where
  entries : ∀ e ∈ s.pending, ∃ c, s.calls[e.2]? = some c ∧ c.id = e.1
  keys : (s.pending.map (·.1)).Nodup
  deliv : ∀ d ∈ s.delivered, ∃ c, s.calls[d.1]? = some c ∧ d.2.reqId = some c.id ∧ c.state = .done d.2.payload
  once : (s.delivered.map (·.1)).Nodup
  waitingPending : ∀ d ∈ s.delivered, ∀ e ∈ s.pending, e.2 ≠ d.1

theorem setState_getElem? (calls : List Call) (i j : Nat) (st : CallState) :
    (setState calls i st)[j]? = (calls[j]?).map fun c => if j = i then { c with state := st } else c := by
  simp [setState, List.getElem?_mapIdx]

theorem setState_length (calls : List Call) (i : Nat) (st : CallState) : (setState calls i st).length = calls.length := by
  simp [setState]

theorem setState_id {calls : List Call} {j k : Nat} (h : ∃ c, calls[j]? = some c ∧ c.id = k) (i : Nat) (st : CallState) :
    ∃ c, (setState calls i st)[j]? = some c ∧ c.id = k := by
  obtain ⟨c, hc, hid⟩ := h
  rw [setState_getElem?, hc]; exact ⟨_, rfl, by split <;> exact hid⟩

theorem setState_of_ne {i j : Nat} (h : j ≠ i) (calls : List Call) (st : CallState) :
    (setState calls i st)[j]? = calls[j]? := by
  rw [setState_getElem?]; simp only [if_neg h, Option.map_id']

theorem filter_keys_nodup (l : List (Nat × Nat)) (id : Nat) (h : (l.map (·.1)).Nodup) :
    ((l.filter (·.1 ≠ id)).map (·.1)).Nodup :=
  List.Nodup.sublist (List.Sublist.map _ List.filter_sublist) h

theorem rqInv_init : RqInv {} :=
  ⟨fun _ h => absurd h List.not_mem_nil, List.nodup_nil, fun _ h => absurd h List.not_mem_nil, List.nodup_nil,
    fun _ h => absurd h List.not_mem_nil⟩

theorem call_inv (s : Rq) (h : RqInv s) : RqInv s.call := by
  have grow : ∀ {i c}, s.calls[i]? = some c → s.call.calls[i]? = some c := fun hc =>
    (List.getElem?_append_left (List.getElem?_eq_some_iff.1 hc).1).trans hc
  refine ⟨?_, List.nodup_cons.2 ⟨?_, filter_keys_nodup _ _ h.keys⟩, ?_, h.once, ?_⟩
  · intro e he
    rcases List.mem_cons.1 he with rfl | he
    · exact ⟨_, List.getElem?_concat_length, rfl⟩
    · obtain ⟨c, hc, hid⟩ := h.entries e (List.mem_filter.1 he).1
      exact ⟨c, grow hc, hid⟩
  · intro hm
    obtain ⟨e, he, heq⟩ := List.mem_map.1 hm
    exact of_decide_eq_true (List.mem_filter.1 he).2 heq
  · intro d hd
    obtain ⟨c, hc, h12⟩ := h.deliv d hd
    exact ⟨c, grow hc, h12⟩
  · intro d hd e he
    rcases List.mem_cons.1 he with rfl | he
    · obtain ⟨c, hc, _⟩ := h.deliv d hd
      exact Nat.ne_of_gt (List.getElem?_eq_some_iff.1 hc).1
    · exact h.waitingPending d hd e (List.mem_filter.1 he).1

theorem timeout_inv (s : Rq) (ci : Nat) (h : RqInv s) : RqInv (s.timeout ci) := by
  fun_cases Rq.timeout s ci
  next c hc hw =>
    -- call `ci` is waiting: it is marked timed out
    refine ⟨?_, h.keys, ?_, h.once, h.waitingPending⟩
    · exact fun e he => setState_id (h.entries e he) ci .timedOut
    · intro d hd
      obtain ⟨c', hc', h1, h2⟩ := h.deliv d hd
      -- a call that holds a reply is not waiting: it is not the one that times out
      have hne : d.1 ≠ ci := fun heq => by rw [heq, hc] at hc'; cases hc'; rw [hw] at h2; cases h2
      exact ⟨c', (setState_of_ne hne ..).trans hc', h1, h2⟩
  next => exact h
  next => exact h

theorem RqInv.remove {s : Rq} (h : RqInv s) (id : Nat) : RqInv { s with pending := s.pending.filter (·.1 ≠ id) } :=
  ⟨fun e he => h.entries e (List.mem_filter.1 he).1, filter_keys_nodup _ _ h.keys, h.deliv, h.once,
    fun d hd e he => h.waitingPending d hd e (List.mem_filter.1 he).1⟩

theorem arrive_inv (s : Rq) (r : Reply) (h : RqInv s) : RqInv (s.arrive r) := by
  fun_cases Rq.arrive s r
  next => exact h
  next => exact h
  next id hid eid ci hf c hc hw =>
    -- the map holds the id, for call `ci`, which is waiting: the entry goes and the call is handed the reply
    have hmem : (eid, ci) ∈ s.pending := List.mem_of_find?_eq_some hf
    obtain rfl : eid = id := of_decide_eq_true (List.find?_some hf :)
    obtain ⟨c0, hc0, hcid⟩ := h.entries _ hmem
    obtain rfl : c = c0 := Option.some.inj (hc.symm.trans hc0)
    -- the entries that stay belong to other calls: two entries for one call would carry the same id
    have hrem : ∀ e' ∈ s.pending.filter (·.1 ≠ eid), e' ∈ s.pending ∧ e'.2 ≠ ci := by
      intro e' he'
      obtain ⟨hm, hne⟩ := List.mem_filter.1 he'
      refine ⟨hm, fun heq => of_decide_eq_true hne ?_⟩
      obtain ⟨c', hc', hcid'⟩ := h.entries e' hm
      rw [heq, hc] at hc'
      rw [← hcid', ← Option.some.inj hc', hcid]
    refine ⟨?_, filter_keys_nodup _ _ h.keys, ?_, ?_, ?_⟩
    · exact fun e' he' => setState_id (h.entries e' (hrem e' he').1) ci (.done r.payload)
    · intro d hd
      rcases List.mem_append.1 hd with hd | hd
      · obtain ⟨c', hc', h12⟩ := h.deliv d hd
        exact ⟨c', (setState_of_ne (h.waitingPending d hd _ hmem).symm ..).trans hc', h12⟩
      · rw [List.mem_singleton.1 hd]
        exact ⟨{ c with state := .done r.payload }, by rw [setState_getElem?, hc]; exact congrArg some (if_pos rfl),
          hid.trans (congrArg some hcid.symm), rfl⟩
    · rw [List.map_append, List.nodup_append]
      refine ⟨h.once, List.pairwise_singleton _ _, ?_⟩
      intro a ha b hb
      obtain ⟨d, hd, rfl⟩ := List.mem_map.1 ha
      rw [List.mem_singleton.1 hb]
      exact (h.waitingPending d hd _ hmem).symm
    · intro d hd e' he'
      rcases List.mem_append.1 hd with hd | hd
      · exact h.waitingPending d hd e' (hrem e' he').1
      · rw [List.mem_singleton.1 hd]; exact (hrem e' he').2
  -- the call is not waiting, or (never, by `entries`) there is none: only the entry goes
  next id _ _ _ _ _ _ _ => exact h.remove id
  next id _ _ _ _ _ => exact h.remove id

theorem run_inv (evs : List RqEvent) : RqInv (Rq.run evs) :=
  List.foldlRecOn evs Rq.step rqInv_init fun s h e _ => by
    cases e with
    | call => exact call_inv s h
    | arrive r => exact arrive_inv s r h
    | timeout ci => exact timeout_inv s ci h

theorem Rq.run_concat (evs : List RqEvent) (e : RqEvent) : Rq.run (evs ++ [e]) = (Rq.run evs).step e :=
  List.foldl_append ..

theorem replyOfFrame_requestHeaders (id : Nat) (hid : id < U32) (payload : Bytes) :
    replyOfFrame (some (requestHeaders id)) payload = { reqId := some id, payload := payload } := by
  simp [replyOfFrame, requestHeaders, Sink.Hdr.get, parseU32, Sink.parseBelow_repr U32 id hid]

end Selium.Client
