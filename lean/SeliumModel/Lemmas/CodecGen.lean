/-
The definitions the translator prints from `protocol/src/codec.rs` (`Gen/CodecFn.lean`: `validate_payload_length`,
`<MessageCodec as Decoder>::decode`, `<MessageCodec as Encoder<Frame>>::encode`) are the hand-written models
`Wire.decode` and `Wire.encode` (`Wire/Frame.lean`), for every buffer and frame, up to the text of errors.
-/
import SeliumModel.Gen.CodecFn
import SeliumModel.Lemmas.Decode
import SeliumModel.Lemmas.Rs

namespace Selium.Wire
open Selium Selium.Gen Selium.Gen.Frame

theorem gen_decode_eq (src : Bytes) :
    Rs.Out.shape (CodecFn.decode (fun t b => toOut (tryFrom t b)) src) = Rs.Out.shape (toOut (decode src)) := by
  -- the same three tests in the same order (`decode_short`, `decode_too_large`, `decode_partial`), then the buffer
  -- operations, none of which can fail after them
  unfold CodecFn.decode
  rcases Nat.lt_or_ge src.length 9 with h9 | h9
  · rw [if_pos h9, decode_short src h9]; rfl
  have h8 : 8 ≤ src.length := Nat.le_of_succ_le h9
  simp only [if_neg (Nat.not_lt.2 h9), slicePrefix_of_le h8, List.length_take, List.length_replicate,
    Nat.min_eq_left h8, if_true, fromBe_eq_beNat, CodecFn.validate_payload_length]
  rw [show beNat (List.take 8 src) = declaredLen src from rfl]
  rcases Nat.lt_or_ge maxMessageSize (declaredLen src) with hbig | hmax
  · rw [if_pos (show declaredLen src > 1048576 from hbig), decode_too_large src h9 hbig]; rfl
  rw [if_neg (show ¬ declaredLen src > 1048576 from Nat.not_lt.2 hmax)]
  rcases Nat.lt_or_ge src.length (9 + declaredLen src) with hw | hl
  · rw [decode_partial src h9 hmax hw]
    simp only [if_pos (Nat.sub_lt_left_of_lt_add h9 hw)]; rfl
  have hl' : declaredLen src ≤ (src.drop 9).length := by rw [List.length_drop]; exact Nat.le_sub_of_add_le' hl
  simp only [if_neg (Nat.not_lt.2 (Nat.le_sub_of_add_le' hl)), advance_of_le h8, getU8_drop h9, Nat.reduceAdd,
    splitTo_of_le hl']
  rw [decode_complete src hmax hl, show ((List.drop 8 src).headD 0).toNat = typeByte src from rfl]
  cases tryFrom (typeByte src) ((src.drop 9).take (declaredLen src)) <;> rfl

/-- what `encode` does to the buffer it is handed: the bytes of `Wire.encode` are appended -/
def appendTo (dst : Bytes) (r : Res Bytes) : Rs.Out (Unit × Bytes) :=
  match r with
  | .ok b => .ok ((), dst ++ b)
  | .err e => .err e
  | .panic p => .panic p

/-- `Frame::{get_length, get_type, write_to_bytes}` are parameters of the generated `encode`, instantiated with the
    model's (built from the regenerated tables). -/
theorem gen_encode_eq (f : Frame) (dst : Bytes) :
    Rs.Out.shape (CodecFn.encode (fun f => toOut (getLength f)) getType
        (fun f d => appendTo d (payloadBytes (writeBody f.kind) f.payload)) f dst)
      = Rs.Out.shape (appendTo dst (encode f)) := by
  unfold CodecFn.encode encode
  cases hl : getLength f with
  | err e | panic p => simp [hl, toOut, appendTo, Rs.Out.shape]
  | ok length =>
    simp only [hl, toOut, CodecFn.validate_payload_length, maxMessageSize]
    by_cases hbig : length > 1048576
    · simp [hbig, appendTo, Rs.Out.shape]
    · simp only [hbig, if_false]
      cases payloadBytes (writeBody f.kind) f.payload with
      | err e | panic p => simp [appendTo, Rs.Out.shape]
      | ok body =>
        simp [appendTo, Rs.Out.shape, Rs.Out.withState, Rs.putU64, Rs.putU8, toBe_eq_beBytes, lenMarkerSize]

end Selium.Wire
