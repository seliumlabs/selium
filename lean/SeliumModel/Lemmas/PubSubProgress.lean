import SeliumModel.Lemmas.Patience
import SeliumModel.Lemmas.StreamMap
import SeliumModel.Lemmas.PubSubRun
import SeliumModel.Lemmas.Executor
/-
What a poll of the pub/sub router uses up: for C09 and C16, for C11 (the bound on the loop), and for the last clause of
property C01, "nothing the server accepted is left undelivered or unflushed", which is proved in `Props/C09.lean`
(`c09_pubsub_wake_driven_executor_delivers`).

Two quantities, neither of which any primitive step increases. `work` (Route/PubSub): the queued registrations and what
the publisher streams still hold; every turn of the loop uses some of it up, which bounds the loop (`pollFuel_terminates`).
`ppat`: the readiness / flush answers the subscriber sinks, connected or still queued, still hold; a sink operation that
answers Pending uses one up. So a poll that ends blocked on a subscriber or waiting for publishers has decreased
`measure = work + ppat`, and the wake-driven executor (`runPolls`) settles within `measure` polls.
-/
namespace Selium.Route
open Selium.Sink
variable {α : Type}

def sockPatience : Sock α → Nat
  | .stream _ => 0
  | .sink c => c.patience

def ppat (s : PS α) : Nat := patience s.sinks + (s.queue.map sockPatience).sum

def measure (s : PS α) : Nat := work s + patience s.sinks + (s.queue.map sockPatience).sum

theorem measure_eq (s : PS α) : measure s = work s + ppat s := Nat.add_assoc ..

theorem ppat_withSinks (s : PS α) {ks : List (Child α)} (h : patience ks ≤ patience s.sinks) :
    ppat (s.withSinks ks) ≤ ppat s := Nat.add_le_add_right h _

theorem ppat_flushSinks (s : PS α) :
    ppat (flushSinks s).2.1 ≤ ppat s ∧ ((flushSinks s).1 = .pending → ppat (flushSinks s).2.1 < ppat s) :=
  ⟨Nat.add_le_add_right (pollFlush_patience s.sinks).1 _, fun h => Nat.add_lt_add_right ((pollFlush_patience s.sinks).2 h) _⟩

theorem adopt_cost (s : PS α) (sock : Sock α) (q : List (Sock α)) (hq : s.queue = sock :: q) :
    work (adopt s sock q) < work s ∧ ppat (adopt s sock q) = ppat s := by
  unfold work ppat
  rw [hq, List.map_cons, List.sum_cons, List.map_cons, List.sum_cons]
  cases sock with
  | stream sc =>
    -- in the map a stream weighs one more than its script (the poll that finds it ended is a turn of the loop too); in the
    -- queue one more again, for the turn that adopts it
    refine ⟨?_, congrArg _ (Nat.zero_add _).symm⟩
    simp only [adopt, streamsWeight, sockWeight, List.map_append, List.sum_append, List.map_cons, List.map_nil, List.sum_cons,
      List.sum_nil]
    omega
  | sink c =>
    refine ⟨Nat.add_lt_add_right (Nat.lt_add_of_pos_left Nat.one_pos) _, ?_⟩
    simp only [adopt, Selium.Sink.insert, patience, sockPatience, List.map_append, List.sum_append, List.map_cons,
      List.map_nil, List.sum_cons, List.sum_nil]
    exact Nat.add_assoc ..

theorem work_streams (s : PS α) (i : Nat) (hne : s.streams ≠ []) :
    work { s with streams := (smPoll i s.streams).2.1 } < work s :=
  Nat.add_lt_add_left (smPoll_weight_lt i _ hne) _

theorem Reach.cost {n : Nat} {s t : PS α} (hr : Reach n s t) : work t + n ≤ work s ∧ ppat t ≤ ppat s := by
  induction hr with
  | refl => exact ⟨Nat.le_refl _, Nat.le_refl _⟩
  | ready _ ih => exact ⟨ih.1, Nat.le_trans ih.2 (ppat_withSinks _ (pollReady_patience _).1)⟩
  | @send _ s _ x _ _ ih => exact ⟨ih.1, Nat.le_trans ih.2 (ppat_withSinks s (startSend_patience x _))⟩
  | flush _ ih => exact ⟨ih.1, Nat.le_trans ih.2 (ppat_flushSinks _).1⟩
  | adopt sock q _ hq _ ih =>
    have := adopt_cost _ sock q hq
    exact ⟨Nat.le_trans (Nat.add_le_add_right ih.1 1) this.1, this.2 ▸ ih.2⟩
  | reg _ ih => exact ih
  | @item _ s _ i _ _ _ _ _ _ hne hsm _ ih | @polled _ s _ i _ _ _ _ hne hsm _ _ ih =>
    have := work_streams s i hne
    rw [hsm] at this
    exact ⟨Nat.le_trans (Nat.add_le_add_right ih.1 1) this, ih.2⟩

theorem pollFuel_terminates (fuel : Nat) (o : List Nat) (s : PS α) (hw : work s < fuel) :
    (pollFuel fuel o s).1 ≠ .outOfFuel := by
  obtain ⟨n, t, hr, _, hn⟩ := pollFuel_run fuel o s
  intro h
  -- it has gone round the loop `fuel` times, and every turn used up some of the work
  have : fuel ≤ work s := hn h ▸ Nat.le_trans (Nat.le_add_left n _) hr.cost.1
  exact Nat.lt_irrefl _ (Nat.lt_of_le_of_lt this hw)

theorem Reach.measure_le {n : Nat} {s t : PS α} (hr : Reach n s t) : measure t ≤ measure s := by
  rw [measure_eq, measure_eq]
  exact Nat.add_le_add (Nat.le_of_add_right_le hr.cost.1) hr.cost.2

theorem Returns.measure_lt {t s' : PS α} {out : Outcome} (hf : Returns t out s')
    (ho : out = .blockedOnSink ∨ out = .waitingStreams) : measure s' < measure t := by
  rw [measure_eq, measure_eq]
  cases hf with
  | outOfFuel | done | idle => simp at ho
  | notReady x _ hp => exact Nat.add_lt_add_left (Nat.add_lt_add_right ((pollReady_patience t.sinks).2 hp) _) _
  | notFlushed hp => exact Nat.add_lt_add_left ((ppat_flushSinks t).2 hp) _
  | waiting i es evs _ _ _ _ hne hsm =>
    have := work_streams t i hne
    rw [hsm] at this
    exact Nat.add_lt_add_of_lt_of_le this (ppat_flushSinks { t with streams := es }).1

theorem pollFuel_measure_lt (fuel : Nat) (o : List Nat) (s : PS α) :
    measure (pollFuel fuel o s).2.1 ≤ measure s ∧
    (((pollFuel fuel o s).1 = .blockedOnSink ∨ (pollFuel fuel o s).1 = .waitingStreams) →
      measure (pollFuel fuel o s).2.1 < measure s) := by
  refine ⟨(pollFuel_reach fuel o s).elim fun _ hr => hr.measure_le, fun ho => ?_⟩
  obtain ⟨n, t, hr, hf, _⟩ := pollFuel_run fuel o s
  exact Nat.lt_of_lt_of_le (hf.measure_lt ho) hr.measure_le

theorem Reach.keeps_closed {n : Nat} {s t : PS α} (hr : Reach n s t) : t.closed = s.closed := by
  induction hr with
  | refl => rfl
  | ready _ ih | send _ _ _ ih | flush _ ih | reg _ ih | item _ _ _ _ _ _ _ _ _ _ ih | polled _ _ _ _ _ _ _ _ _ ih =>
    exact ih
  | adopt sock _ _ _ _ ih => rw [ih]; cases sock <;> rfl

theorem pollFuel_keeps_closed (fuel : Nat) (o : List Nat) (s : PS α) : (pollFuel fuel o s).2.1.closed = s.closed :=
  (pollFuel_reach fuel o s).elim fun _ hr => hr.keeps_closed

theorem Reach.closed_takes_nothing {n : Nat} {s t : PS α} (hr : Reach n s t) (hc : s.closed = true) :
    t.accepted = s.accepted ∧ ∃ adopted, t.streams = s.streams ++ adopted := by
  induction hr with
  | refl => exact ⟨rfl, [], (List.append_nil _).symm⟩
  | ready _ ih | send _ _ _ ih | flush _ ih | reg _ ih => exact ih hc
  -- with the channel closed no stream is polled
  | item _ _ _ _ _ _ hc' | polled _ _ _ _ hc' => rw [hc] at hc'; cases hc'
  | adopt sock q _ _ _ ih =>
    cases sock with
    | sink c => exact ih hc
    | stream sc =>
      obtain ⟨ha, ex, hs⟩ := ih hc
      exact ⟨ha, { id := _, script := sc } :: ex, by rw [hs]; exact List.append_assoc _ _ _⟩

theorem pollFuel_closed (fuel : Nat) (o : List Nat) (s : PS α) (hc : s.closed = true) :
    (pollFuel fuel o s).1 ≠ .outOfFuel → (pollFuel fuel o s).1 = .done ∨ (pollFuel fuel o s).1 = .blockedOnSink := by
  obtain ⟨n, t, hr, hf, _⟩ := pollFuel_run fuel o s
  have ht := hr.keeps_closed
  rw [hc] at ht
  generalize (pollFuel fuel o s).1 = out, (pollFuel fuel o s).2.1 = s' at hf ⊢
  cases hf with
  | outOfFuel | notReady | notFlushed | done => simp
  | idle _ _ hc' | waiting _ _ _ _ _ hc' => rw [ht] at hc'; cases hc'

/-- A wake-driven executor: it polls the router, and polls it again only when a waker has fired. In the model a
    child that answered Pending holds the waker and fires it when its next scripted answer is due, so after a
    poll that ended blocked on a sink or waiting for streams the next poll follows. `orc k` are `StreamMap`'s
    random choices during the `k`-th poll. -/
def runPolls (orc : Nat → List Nat) : Nat → PS α → PS α
  | 0, s => s
  | n + 1, s => runPolls (fun k => orc (k + 1)) n (pollFuel (work s + 1) (orc 0) s).2.1

theorem runPolls_executor : Executor (fun o (s : PS α) => (pollFuel (work s + 1) o s).2.1) runPolls :=
  ⟨fun _ _ => rfl, fun _ _ _ => rfl⟩

theorem runPolls_invariant {P : PS α → Prop} (hp : ∀ fuel o s, P s → P (pollFuel fuel o s).2.1)
    (orc : Nat → List Nat) (n : Nat) (s : PS α) (h : P s) : P (runPolls orc n s) :=
  runPolls_executor.invariant (fun _ _ => hp _ _ _) orc n s h

theorem runPolls_keeps_closed (orc : Nat → List Nat) (n : Nat) (s : PS α) : (runPolls orc n s).closed = s.closed :=
  runPolls_invariant (P := fun t => t.closed = s.closed) (fun _ _ _ h => (pollFuel_keeps_closed ..).trans h) orc n s rfl

theorem runPolls_settles (s : PS α) (orc : Nat → List Nat) :
    ∃ n, n ≤ measure s ∧
      ((pollFuel (work (runPolls orc n s) + 1) (orc n) (runPolls orc n s)).1 = .idle ∨
       (pollFuel (work (runPolls orc n s) + 1) (orc n) (runPolls orc n s)).1 = .done) := by
  -- a poll that ends Pending on a peer is followed by another, from a state with a smaller measure
  obtain ⟨n, hn, h⟩ := runPolls_executor.settles (fun o s => (pollFuel_measure_lt (work s + 1) o s).2) s orc
  refine ⟨n, hn, ?_⟩
  -- any other poll ends idle or finished: with fuel for the work at hand it does not run out
  cases ho : (pollFuel (work (runPolls orc n s) + 1) (orc n) (runPolls orc n s)).1 with
  | idle => exact .inl rfl
  | done => exact .inr rfl
  | outOfFuel => exact absurd ho (pollFuel_terminates _ _ _ (Nat.lt_succ_self _))
  | blockedOnSink => exact absurd (.inl ho) h
  | waitingStreams => exact absurd (.inr ho) h

theorem runPolls_closed_finishes (s : PS α) (hc : s.closed = true) (orc : Nat → List Nat) :
    ∃ n, n ≤ measure s ∧
      (pollFuel (work (runPolls orc n s) + 1) (orc n) (runPolls orc n s)).1 = .done := by
  obtain ⟨n, hn, hfin⟩ := runPolls_settles s orc
  -- a closed router is never idle, so the poll on which it settles is the one that finishes
  refine ⟨n, hn, hfin.resolve_left fun h => ?_⟩
  have := pollFuel_closed (work (runPolls orc n s) + 1) (orc n) _ ((runPolls_keeps_closed orc n s).trans hc)
  rw [h] at this
  rcases this nofun with h' | h' <;> cases h'

end Selium.Route
