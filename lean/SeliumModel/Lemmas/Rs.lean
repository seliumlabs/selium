/-
Shared by `Lemmas/CodecGen.lean` and `Lemmas/BatchGen.lean`: a model result `Res` read as a result `Rs.Out` of a
translated function, and the byte operations of the `Rs` prelude (`SeliumModel/Rs.lean`) in terms of `Wire/Basic.lean`.
-/
import SeliumModel.Rs
import SeliumModel.Wire.Basic

namespace Selium.Wire
open Selium

/-- a model result as a translated-function result -/
def toOut {α : Type} : Res α → Rs.Out α
  | .ok a => .ok a
  | .err e => .err e
  | .panic p => .panic p

/-- results compared up to the text of errors and panic sites -/
def Rs.Out.shape {α : Type} : Rs.Out α → Rs.Out α
  | .ok a => .ok a
  | .err _ => .err ""
  | .panic _ => .panic ""

/-- forget what is left of the buffer -/
def Rs.Out.value {α σ : Type} : Rs.Out (α × σ) → Rs.Out α
  | .ok (a, _) => .ok a
  | .err e => .err e
  | .panic p => .panic p

theorem shape_toOut_eq_ok {α : Type} {r : Res α} {a : α} : Rs.Out.shape (toOut r) = .ok a ↔ r = .ok a := by
  cases r <;> simp [toOut, Rs.Out.shape]

theorem shape_toOut_ne_panic {α : Type} {r : Res α} : Rs.Out.shape (toOut r) ≠ .panic "" ↔ ∀ s, r ≠ .panic s := by
  cases r <;> simp [toOut, Rs.Out.shape]

theorem leNat_eq_foldr (l : Bytes) : leNat l = l.foldr (fun b acc => b.toNat + 256 * acc) 0 := by
  induction l with
  | nil => rfl
  | cons b bs ih => rw [leNat, ih, List.foldr_cons]

theorem fromBe_eq_beNat (l : Bytes) : Rs.fromBe l = beNat l := by
  rw [Rs.fromBe, beNat, leNat_eq_foldr, List.foldr_reverse]
  congr 1; funext acc x; rw [Nat.add_comm, Nat.mul_comm]

theorem toBe_eq_beBytes (w n : Nat) : Rs.toBe w n = beBytes w n := by
  unfold beBytes
  induction w generalizing n with
  | zero => rfl
  | succ w ih => simp [Rs.toBe, leBytes, ih]

theorem slicePrefix_of_le {buf : Bytes} {n : Nat} (h : n ≤ buf.length) : Rs.slicePrefix buf n = some (buf.take n) :=
  if_pos h
theorem advance_of_le {buf : Bytes} {n : Nat} (h : n ≤ buf.length) : Rs.advance buf n = some (buf.drop n) := if_pos h
theorem splitTo_of_le {buf : Bytes} {n : Nat} (h : n ≤ buf.length) :
    Rs.splitTo buf n = some (buf.take n, buf.drop n) := if_pos h
theorem getU8_drop {buf : Bytes} {n : Nat} (h : n < buf.length) :
    Rs.getU8 (buf.drop n) = some (((buf.drop n).headD 0).toNat, buf.drop (n + 1)) := by
  rw [← List.drop_drop]
  cases hd : buf.drop n with
  | nil => exact absurd (List.drop_eq_nil_iff.1 hd) (Nat.not_le.2 h)
  | cons b r => rfl

end Selium.Wire
