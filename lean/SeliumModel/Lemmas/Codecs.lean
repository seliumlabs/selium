import SeliumModel.Client.Codecs

/-! What a codec has to satisfy for the fidelity results (C03, C14); `mapRes` applies a codec to every item of a list. -/
namespace Selium.Client
open Selium

def Codec.Lossless {α} (c : Codec α) (good : α → Prop) : Prop :=
  ∀ a, good a → ∃ b, c.encode a = .ok b ∧ c.decode b = .ok a

theorem noCompression_lossless : noCompression.Lossless := fun b => ⟨b, rfl, rfl⟩

theorem mapRes_append_ok {β γ : Type} (f : β → Res γ) (xs ys : List β) (as bs : List γ)
    (h1 : mapRes f xs = .ok as) (h2 : mapRes f ys = .ok bs) : mapRes f (xs ++ ys) = .ok (as ++ bs) := by
  fun_induction mapRes f xs generalizing as with
  | case1 => cases h1; exact h2
  | case2 x xs y hx ys' hr ih => cases h1; rw [List.cons_append, mapRes, hx, ih ys' hr]; rfl
  | _ => cases h1

theorem mapRes_lossless {α} (c : Codec α) (good : α → Prop) (hc : c.Lossless good)
    (items : List α) (hi : ∀ a ∈ items, good a) :
    ∃ bs, mapRes c.encode items = .ok bs ∧ mapRes c.decode bs = .ok items ∧ bs.length = items.length := by
  induction items with
  | nil => exact ⟨[], rfl, rfl, rfl⟩
  | cons a as ih =>
    obtain ⟨b, he, hd⟩ := hc a (hi a List.mem_cons_self)
    obtain ⟨bs, hes, hds, hl⟩ := ih fun x hx => hi x (List.mem_cons_of_mem _ hx)
    exact ⟨b :: bs, by rw [mapRes, he, hes], by rw [mapRes, hd, hds], congrArg (· + 1) hl⟩

theorem mapRes_no_panic {α} (f : Bytes → Res α) (hf : ∀ b s, f b ≠ .panic s) (l : List Bytes) (s : String) :
    mapRes f l ≠ .panic s := by
  -- the two arms that return a panic: `case4` passes on one from the rest of the list, `case6` one from `f`
  fun_induction mapRes f l generalizing s with
  | case4 _ _ _ _ s' h' ih => exact absurd h' (ih s')
  | case6 a _ s' h' => exact absurd h' (hf a s')
  | _ => simp

end Selium.Client
