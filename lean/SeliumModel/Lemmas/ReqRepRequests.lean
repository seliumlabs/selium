import SeliumModel.Lemmas.ReqRepBlocks
/- Requests, from a requestor's stream to the replier's sink: the ledger invariant `ReqInv` (C02), when one is dropped
   (`NoBacklog`, C02), and what block A / block F do with a request that cannot be handed on (C08, C11). -/
namespace Selium.Route
open Selium.Sink

/-- what the repliers were handed, plus the one buffered request, is a subsequence (same order, nothing
    twice) of the requests taken from the requestors; every request taken is handed, lost or buffered -/
structure ReqInv (s : RR) : Prop where
  sub : (s.handed.map (·.2) ++ s.bufReq.toList).Sublist (s.taken.map (·.2))
  count : s.taken.length = s.handed.length + s.lost.length + s.bufReq.toList.length
  tagged : ∀ x ∈ s.taken, ∃ h p, x.2 = tagRequest x.1 h p

def reqView (s : RR) := (s.handed, s.bufReq, s.taken, s.lost)

theorem reqReads : Reads reqView ReqInv := by
  intro s t h e
  simp only [reqView, Prod.mk.injEq] at e
  obtain ⟨h1, h2, h3, h4⟩ := e
  constructor
  · rw [h1, h2, h3]; exact h.sub
  · rw [h1, h2, h3, h4]; exact h.count
  · rw [h3]; exact h.tagged

theorem flushRouter_req (s : RR) :
    (flushRouter s).2.handed = s.handed ∧ (flushRouter s).2.bufReq = s.bufReq ∧
    (flushRouter s).2.taken = s.taken ∧ (flushRouter s).2.lost = s.lost := ⟨rfl, rfl, rfl, rfl⟩

theorem partA_req (s : RR) (h : ReqInv s) : ReqInv (partA s).state := by
  fun_cases partA s
  case case3 f r _ hf _ _ =>
    -- accepted by the replier's sink
    have hs := h.sub
    have hc := h.count
    simp only [hf, Option.toList, List.length_singleton] at hs hc
    exact ⟨by simpa [Flow.state, log] using hs, by simp [Flow.state, log]; omega, h.tagged⟩
  case case4 f r _ hf _ _ =>
    -- refused: dropped
    have hs := h.sub
    have hc := h.count
    simp only [hf, Option.toList, List.length_singleton] at hs hc
    exact ⟨by simpa [Flow.state, log] using (List.sublist_append_left _ _).trans hs,
      by simp [Flow.state, log]; omega, h.tagged⟩
  all_goals exact reqReads h rfl

theorem partF_req (s : RR) (h : ReqInv s) : ReqInv (partF s).state := by
  fun_cases partF s
  case case1 sid hd p es evs _ =>
    -- a request is taken: it replaces whatever was buffered (which is lost)
    refine ⟨?_, ?_, ?_⟩
    · simp only [Flow.state, log, List.map_append, List.map_cons, List.map_nil, Option.toList]
      exact ((List.sublist_append_left _ _).trans h.sub).append (.refl _)
    · have := h.count
      simp only [Flow.state, log, List.length_append, List.length_singleton, Option.toList_some]
      omega
    · intro x hx
      rcases List.mem_append.mp hx with hx | hx
      · exact h.tagged x hx
      · exact List.mem_singleton.mp hx ▸ ⟨hd, p, rfl⟩
  case case6 => exact flushReplier_frame _ _ _ (fun _ _ => reqReads h rfl) fun _ ht => reqReads ht rfl
  all_goals exact reqReads h rfl

theorem reqInv : Invariant ReqInv where
  init := ⟨by simp, rfl, by intro x hx; simp at hx⟩
  env := reqReads.env
  partA := partA_req
  partB := reqReads.partB
  partH := reqReads.partH
  partD := reqReads.partD
  partE := reqReads.partE
  partF := partF_req
  partG := reqReads.partG

theorem ReqInv.handed_tagged {s : RR} (h : ReqInv s) :
    ∀ x ∈ s.handed, ∃ sid hd p, (sid, x.2) ∈ s.taken ∧ x.2 = tagRequest sid hd p := by
  intro x hx
  obtain ⟨⟨sid, y⟩, hz, hy⟩ := List.mem_map.mp (h.sub.subset (List.mem_append_left _ (List.mem_map_of_mem hx)))
  obtain ⟨hd, p, hzt⟩ := h.tagged _ hz
  exact ⟨sid, hd, p, hy ▸ hz, hy ▸ hzt⟩

/-- no request is buffered while a replier is bound. A fact about the middle of an iteration, not an invariant of the
    state: block A establishes it from any state, B, H, D and E keep it, F uses it (`partF_loses_only_unbound`) and
    undoes it, buffering the request it takes while a replier is bound. -/
def NoBacklog (s : RR) : Prop := ¬ (s.bufReq.isSome ∧ s.server.isSome)

def NextHas (P : RR → Prop) (f : Flow) : Prop :=
  match f with
  | .next s' => P s'
  | _ => True

theorem NextHas.andThen {P Q : RR → Prop} {f : Flow} {g : RR → Flow} (hf : NextHas P f)
    (hg : ∀ s, P s → NextHas Q (g s)) : NextHas Q (f.andThen g) := by
  cases f with
  | ret o s => trivial
  | again s => trivial
  | next s => exact hg s hf

theorem partA_noBacklog (s : RR) : NextHas NoBacklog (partA s) := by
  fun_cases partA s
  case case1 => trivial
  case case5 hne =>
    -- nothing to hand over: no request is buffered, or no replier is bound
    intro ⟨h1, h2⟩
    obtain ⟨f, hf⟩ := Option.isSome_iff_exists.mp h1
    obtain ⟨r, hr⟩ := Option.isSome_iff_exists.mp h2
    exact hne f r hf hr
  -- the replier has gone (its sink failed)
  case case2 => exact fun h => nomatch h.2
  -- or the request has
  all_goals exact fun h => nomatch h.1

theorem NextHas.of_post {P : RR → Prop} {f : Flow} (h : f.Post (fun _ _ => True) P (fun _ => True)) : NextHas P f := by
  cases f with
  | next s => exact h
  | _ => trivial

theorem partB_noBacklog (s : RR) (h : NoBacklog s) : NextHas NoBacklog (partB s) :=
  .of_post (partB_post s fun _ _ _ => ⟨trivial, h, trivial⟩)

theorem partH_noBacklog (s : RR) (h : NoBacklog s) : NextHas NoBacklog (partH s) := by
  fun_cases partH s
  case case5 => exact h
  all_goals trivial

theorem partD_noBacklog (s : RR) (h : NoBacklog s) : NextHas NoBacklog (partD s) := by
  fun_cases partD s
  case case4 | case5 => trivial
  case case7 => exact h
  -- a replier is bound, so no request is buffered, and block D does not buffer one
  all_goals exact fun h' => h ⟨h'.1, by simp [‹s.server = _›]⟩

theorem partE_noBacklog (s : RR) (h : NoBacklog s) : NextHas NoBacklog (partE s) :=
  .of_post (partE_post s fun _ _ _ _ _ => ⟨trivial, h⟩)

theorem partF_loses_only_unbound (s : RR) (h : NoBacklog s) :
    (partF s).state.lost = s.lost ∨ s.server = none := by
  cases hs : s.server with
  | none => exact .inr rfl
  | some r =>
    have hn : s.bufReq = none := Option.not_isSome_iff_eq_none.mp fun hq => h ⟨hq, by simp [hs]⟩
    fun_cases partF s
    case case1 => exact .inl (by simp [Flow.state, log, hn])
    case case6 => exact .inl (flushReplier_frame (P := fun t => t.lost = s.lost) _ _ _ (fun _ _ => rfl) fun _ => id)
    all_goals exact .inl rfl

theorem partA_unbinds_failed_replier (s : RR) (f : RFrame) (r : Replier) (hf : s.bufReq = some f)
    (hr : s.server = some r) (he : r.sink.readyAns = .err) :
    ∃ s', partA s = .next s' ∧ s'.server = none ∧ s'.bufReq = some f ∧ s'.sinks = s.sinks ∧ s'.streams = s.streams := by
  unfold partA
  simp only [hf, hr, he]
  exact ⟨_, rfl, rfl, hf, rfl, rfl⟩

/-- the sink refuses e.g. a request that is over the frame limit once tagged -/
theorem partA_refused_request_dropped (s : RR) (f : RFrame) (r : Replier) (hf : s.bufReq = some f)
    (hr : s.server = some r) (he : r.sink.readyAns = .ready) (hs : r.sink.afterReady.sendOk = false) :
    ∃ s', partA s = .next s' ∧ s'.server.isSome ∧ s'.bufReq = none ∧ s'.lost = s.lost ++ [f] ∧ s'.handed = s.handed := by
  unfold partA
  simp only [hf, hr, he, hs]
  exact ⟨_, rfl, rfl, rfl, rfl, rfl⟩

theorem partF_skips_unexpected (s : RR) (sid k : Nat) (es : List (StreamSt RFrame)) (evs : List (Ev RFrame))
    (h : smPoll (s.so.headD 0) s.streams = (.item sid (.other k), es, evs)) :
    ∃ s', partF s = .next s' ∧ s'.sinks = s.sinks ∧ s'.server = s.server ∧ s'.bufReq = s.bufReq ∧
      s'.bufRep = s.bufRep ∧ s'.taken = s.taken ∧ s'.streams = es := by
  unfold partF
  rw [h]
  exact ⟨_, rfl, rfl, rfl, rfl, rfl, rfl, rfl⟩

end Selium.Route
