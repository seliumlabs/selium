/-
The wake-driven executor, whatever it polls (both routers' `runPolls`). `run orc n s` is the state after `n` polls from
`s`, the `k`-th poll with the random choices `orc k`; a poll is followed by another only if its outcome says that a peer
holds the waker (`again`). If every such poll lowers a measure `μ`, at most `μ s` polls are followed by another.
-/
namespace Selium
variable {σ ι : Type} {poll : ι → σ → σ} {run : (Nat → ι) → Nat → σ → σ}

structure Executor (poll : ι → σ → σ) (run : (Nat → ι) → Nat → σ → σ) : Prop where
  zero : ∀ orc s, run orc 0 s = s
  succ : ∀ orc n s, run orc (n + 1) s = run (fun k => orc (k + 1)) n (poll (orc 0) s)

theorem Executor.invariant (x : Executor poll run) {P : σ → Prop} (hp : ∀ i s, P s → P (poll i s)) (orc : Nat → ι)
    (n : Nat) (s : σ) (h : P s) : P (run orc n s) := by
  induction n generalizing orc s with
  | zero => rw [x.zero]; exact h
  | succ n ih => rw [x.succ]; exact ih _ _ (hp _ _ h)

theorem Executor.settles (x : Executor poll run) {μ : σ → Nat} {again : ι → σ → Prop}
    (hlt : ∀ i s, again i s → μ (poll i s) < μ s) (s : σ) :
    ∀ orc : Nat → ι, ∃ n, n ≤ μ s ∧ ¬ again (orc n) (run orc n s) := by
  induction hm : μ s using Nat.strongRecOn generalizing s with
  | ind m ih =>
    intro orc
    by_cases hb : again (orc 0) s
    · have hlt : μ (poll (orc 0) s) < m := hm ▸ hlt _ _ hb
      obtain ⟨n, hn, hfin⟩ := ih _ hlt _ rfl fun k => orc (k + 1)
      exact ⟨n + 1, Nat.succ_le_of_lt (Nat.lt_of_le_of_lt hn hlt), by rw [x.succ]; exact hfin⟩
    · exact ⟨0, Nat.zero_le _, by rw [x.zero]; exact hb⟩

end Selium
