/- The life of an id, read off a list of events: ids are handed out in increasing order and held; an id is let go of (its
   `dropped`) only for a cause that the events before hold, and after that no event concerns it. `view e = some (id, isDrop)`
   says which id an event concerns. `Life` is the invariant, `Stretch` what a stretch of events does to the ids held. -/
namespace Selium.Sink
variable {β γ : Type}

/-- walking events with the ids dropped so far: no event concerns one of them -/
def QuietG (view : β → Option (Nat × Bool)) : List Nat → List β → Prop
  | _, [] => True
  | dead, e :: rest =>
    match view e with
    | some (n, true) => n ∉ dead ∧ QuietG view (n :: dead) rest
    | some (n, false) => n ∉ dead ∧ QuietG view dead rest
    | none => QuietG view dead rest

def droppedG (view : β → Option (Nat × Bool)) (tr : List β) : List Nat :=
  tr.filterMap fun e => match view e with | some (n, true) => some n | _ => none
def touchedG (view : β → Option (Nat × Bool)) (tr : List β) : List Nat := tr.filterMap fun e => (view e).map (·.1)

theorem droppedG_append (view : β → Option (Nat × Bool)) (a b : List β) : droppedG view (a ++ b) = droppedG view a ++ droppedG view b :=
  List.filterMap_append ..
theorem touchedG_append (view : β → Option (Nat × Bool)) (a b : List β) : touchedG view (a ++ b) = touchedG view a ++ touchedG view b :=
  List.filterMap_append ..

theorem droppedG_sub_touchedG (view : β → Option (Nat × Bool)) (tr : List β) : ∀ n ∈ droppedG view tr, n ∈ touchedG view tr := by
  intro n hd
  obtain ⟨e, he, hv⟩ := List.mem_filterMap.mp hd
  refine List.mem_filterMap.mpr ⟨e, he, ?_⟩
  split at hv
  · rename_i m heq; rw [heq]; exact hv
  · cases hv

theorem quietG_append (view : β → Option (Nat × Bool)) (a b : List β) :
    ∀ dead, QuietG view dead (a ++ b) ↔ QuietG view dead a ∧ QuietG view ((droppedG view a).reverse ++ dead) b := by
  induction a with
  | nil => exact fun dead => ⟨fun h => ⟨trivial, h⟩, fun h => h.2⟩
  | cons e rest ih =>
    intro dead
    rcases hv : view e with _ | ⟨n, _ | _⟩ <;>
      simp only [List.cons_append, QuietG, droppedG, List.filterMap_cons, hv, ih, List.reverse_cons, List.append_assoc,
        and_assoc] <;> rfl

theorem quietG_congr (view : β → Option (Nat × Bool)) (tr : List β) :
    ∀ d1 d2 : List Nat, (∀ n, n ∈ d1 ↔ n ∈ d2) → (QuietG view d1 tr ↔ QuietG view d2 tr) := by
  induction tr with
  | nil => intro d1 d2 _; simp [QuietG]
  | cons e rest ih =>
    intro d1 d2 h
    simp only [QuietG]
    cases hv : view e with
    | none => exact ih d1 d2 h
    | some p =>
      obtain ⟨n, b⟩ := p
      cases b with
      | true =>
        simp only
        rw [h n, ih (n :: d1) (n :: d2) (by intro m; simp [h m])]
      | false =>
        simp only
        rw [h n, ih d1 d2 h]

theorem quietG_none (view : β → Option (Nat × Bool)) (dead : List Nat) (tr : List β) (h : ∀ e ∈ tr, view e = none) :
    QuietG view dead tr := by
  induction tr with
  | nil => simp [QuietG]
  | cons e rest ih =>
    simp only [QuietG, h e (List.mem_cons_self ..)]
    exact ih (fun x hx => h x (List.mem_cons_of_mem _ hx))

theorem droppedG_none (view : β → Option (Nat × Bool)) (tr : List β) (h : ∀ e ∈ tr, view e = none) : droppedG view tr = [] :=
  List.filterMap_eq_nil_iff.mpr fun e he => by rw [h e he]
theorem touchedG_none (view : β → Option (Nat × Bool)) (tr : List β) (h : ∀ e ∈ tr, view e = none) : touchedG view tr = [] :=
  List.filterMap_eq_nil_iff.mpr fun e he => by rw [h e he]; rfl

theorem quietG_no_touch (view : β → Option (Nat × Bool)) (tr : List β) :
    ∀ (dead : List Nat), QuietG view dead tr → ∀ n ∈ dead, ∀ e ∈ tr, ∀ b, view e ≠ some (n, b) := by
  induction tr with
  | nil => intro dead _ n _ e he; simp at he
  | cons e0 rest ih =>
    intro dead hq n hn e he b hex
    simp only [QuietG] at hq
    rcases List.mem_cons.mp he with rfl | hrest
    · rw [hex] at hq
      cases b <;> exact hq.1 hn
    · cases hv : view e0 with
      | none => rw [hv] at hq; exact ih dead hq n hn e hrest b hex
      | some p =>
        obtain ⟨m, b'⟩ := p
        rw [hv] at hq
        cases b' with
        | true => exact ih (m :: dead) hq.2 n (List.mem_cons_of_mem _ hn) e hrest b hex
        | false => exact ih dead hq.2 n hn e hrest b hex

theorem quietG_map (view : β → Option (Nat × Bool)) (f : γ → β) (evs : List γ) :
    ∀ dead, QuietG view dead (evs.map f) ↔ QuietG (fun e => view (f e)) dead evs := by
  induction evs with
  | nil => intro dead; simp [QuietG]
  | cons e rest ih =>
    intro dead
    simp only [List.map_cons, QuietG]
    cases view (f e) with
    | none => exact ih dead
    | some p =>
      obtain ⟨n, b⟩ := p
      cases b <;> simp only [ih]
theorem droppedG_map (view : β → Option (Nat × Bool)) (f : γ → β) (evs : List γ) :
    droppedG view (evs.map f) = droppedG (fun e => view (f e)) evs := List.filterMap_map ..
theorem touchedG_map (view : β → Option (Nat × Bool)) (f : γ → β) (evs : List γ) :
    touchedG view (evs.map f) = touchedG (fun e => view (f e)) evs := List.filterMap_map ..

/-- walking events with the ones seen so far: every `dropped` has a cause among those before it -/
def CausedG (view : β → Option (Nat × Bool)) (cause : Nat → β → Prop) : List β → List β → Prop
  | _, [] => True
  | seen, e :: rest => (∀ n, view e = some (n, true) → ∃ c ∈ seen, cause n c) ∧ CausedG view cause (seen ++ [e]) rest

theorem causedG_append (view : β → Option (Nat × Bool)) (cause : Nat → β → Prop) (a b : List β) :
    ∀ seen, CausedG view cause seen (a ++ b) ↔ CausedG view cause seen a ∧ CausedG view cause (seen ++ a) b := by
  induction a with
  | nil => intro seen; simp [CausedG]
  | cons e rest ih =>
    intro seen
    simp only [List.cons_append, CausedG, ih, List.append_assoc, List.nil_append, and_assoc]

theorem causedG_no_drop (view : β → Option (Nat × Bool)) (cause : Nat → β → Prop) (evs : List β)
    (h : ∀ e ∈ evs, ∀ n, view e ≠ some (n, true)) : ∀ seen, CausedG view cause seen evs := by
  induction evs with
  | nil => intro seen; trivial
  | cons e rest ih =>
    intro seen
    exact ⟨fun n hv => absurd hv (h e (List.mem_cons_self ..) n), ih (fun x hx => h x (List.mem_cons_of_mem _ hx)) _⟩

theorem causedG_none (view : β → Option (Nat × Bool)) (cause : Nat → β → Prop) (evs : List β) (h : ∀ e ∈ evs, view e = none) :
    ∀ seen, CausedG view cause seen evs :=
  causedG_no_drop view cause evs fun e he n hn => by rw [h e he] at hn; cases hn

/-- `live`: the ids held, `next`: the next one to hand out. Both sides of the request/reply router are instances: replier
    sockets (`vn`, `causeOf`) and requestor sinks (`vc`, `causeOfC`). -/
structure Life (view : β → Option (Nat × Bool)) (cause : Nat → β → Prop) (tr : List β) (live : List Nat) (next : Nat) :
    Prop where
  quiet : QuietG view [] tr
  alive : ∀ n ∈ live, n ∉ droppedG view tr
  bound : ∀ n ∈ touchedG view tr, n < next
  fresh : ∀ n ∈ live, n < next
  nodup : live.Nodup
  caused : CausedG view cause [] tr

/-- what a stretch `evs` of events does to the ids held, whatever went before (`dead`): it touches only ids held, never
    one dropped before or within the stretch, and what is held afterwards was held before and has not been dropped -/
def Stretch (view : β → Option (Nat × Bool)) (live live' : List Nat) (evs : List β) : Prop :=
  ∀ dead : List Nat, live.Nodup → (∀ n ∈ live, n ∉ dead) →
    QuietG view dead evs ∧ (∀ k ∈ touchedG view evs, k ∈ live) ∧
    (∀ k ∈ live', k ∈ live ∧ k ∉ droppedG view evs) ∧ live'.Nodup

section
variable {view : β → Option (Nat × Bool)} {cause : Nat → β → Prop} {tr evs : List β} {live live' : List Nat} {next : Nat}

theorem Life.nil : Life view cause [] [] 0 :=
  ⟨trivial, by simp, by simp [touchedG], by simp, List.nodup_nil, trivial⟩

theorem Life.append (h : Life view cause tr live next) (hs : Stretch view live live' evs)
    (hc : CausedG view cause tr evs) : Life view cause (tr ++ evs) live' next := by
  -- the dead ids `quietG_append` walks `evs` with, after `tr` from `[]`
  obtain ⟨q, t, k, nd⟩ := hs ((droppedG view tr).reverse ++ []) h.nodup
    (by intro n hn hm; simp only [List.append_nil, List.mem_reverse] at hm; exact h.alive n hn hm)
  refine ⟨(quietG_append view _ _ []).2 ⟨h.quiet, q⟩, ?_, ?_, fun m hm => h.fresh m (k m hm).1, nd, ?_⟩
  · intro m hm hd
    rw [droppedG_append] at hd
    exact (List.mem_append.mp hd).elim (h.alive m (k m hm).1) (k m hm).2
  · intro m hm
    rw [touchedG_append] at hm
    exact (List.mem_append.mp hm).elim (h.bound m) (fun h1 => h.fresh m (t m h1))
  · exact (causedG_append view cause _ _ []).2 ⟨h.caused, hc⟩

theorem Life.adopt (h : Life view cause tr live next) : Life view cause tr (live ++ [next]) (next + 1) := by
  have hnew : ∀ n ∈ live ++ [next], n ∈ live ∨ n = next := fun n hn => by simpa using hn
  refine ⟨h.quiet, ?_, fun n hn => Nat.lt_succ_of_lt (h.bound n hn), ?_, ?_, h.caused⟩
  · intro n hn hd
    rcases hnew n hn with hl | rfl
    · exact h.alive n hl hd
    · exact Nat.lt_irrefl _ (h.bound _ (droppedG_sub_touchedG view tr _ hd))
  · intro n hn
    rcases hnew n hn with hl | rfl
    · exact Nat.lt_succ_of_lt (h.fresh n hl)
    · exact Nat.lt_succ_self _
  · refine List.nodup_append.mpr ⟨h.nodup, by simp, ?_⟩
    intro a ha b hb
    rw [List.mem_singleton.mp hb]
    exact Nat.ne_of_lt (h.fresh a ha)

theorem Life.of_dropped (h : Life view cause tr live next) {pre post : List β} {e : β} {n : Nat} (htr : tr = pre ++ e :: post)
    (hv : view e = some (n, true)) : (∃ c ∈ pre, cause n c) ∧ ∀ e' ∈ post, ∀ b, view e' ≠ some (n, b) := by
  have hq := h.quiet
  have hc := h.caused
  rw [htr] at hq hc
  have h2 := ((quietG_append view pre _ []).1 hq).2
  simp only [QuietG, hv] at h2
  exact ⟨((causedG_append view cause pre _ []).1 hc).2.1 n hv, quietG_no_touch view post _ h2.2 n (List.mem_cons_self ..)⟩

theorem Life.cause_of_drop (h : Life view cause tr live next) {e : β} {n : Nat} (he : e ∈ tr) (hv : view e = some (n, true)) :
    ∃ c ∈ tr, cause n c := by
  obtain ⟨pre, post, htr⟩ := List.append_of_mem he
  obtain ⟨c, hc, hcn⟩ := (h.of_dropped htr hv).1
  exact ⟨c, htr ▸ List.mem_append_left _ hc, hcn⟩

theorem Stretch.none (live : List Nat) (h : ∀ e ∈ evs, view e = none) : Stretch view live live evs := fun dead hnd _ =>
  ⟨quietG_none view dead evs h, by simp [touchedG_none view evs h], by simp [droppedG_none view evs h], hnd⟩

theorem Stretch.trans {a b c : List Nat} {e1 e2 : List β} (h1 : Stretch view a b e1) (h2 : Stretch view b c e2) :
    Stretch view a c (e1 ++ e2) := by
  intro dead hnd hdead
  obtain ⟨q1, t1, k1, n1⟩ := h1 dead hnd hdead
  obtain ⟨q2, t2, k2, n2⟩ := h2 ((droppedG view e1).reverse ++ dead) n1 (by
    intro x hx hm
    exact (List.mem_append.mp hm).elim (fun h => (k1 x hx).2 (List.mem_reverse.mp h)) (hdead x (k1 x hx).1))
  refine ⟨(quietG_append view e1 e2 dead).2 ⟨q1, q2⟩, ?_, ?_, n2⟩
  · intro k hk
    rw [touchedG_append] at hk
    exact (List.mem_append.mp hk).elim (t1 k) (fun h => (k1 k (t2 k h)).1)
  · intro k hk
    refine ⟨(k1 k (k2 k hk).1).1, ?_⟩
    rw [droppedG_append]
    exact fun hm => (List.mem_append.mp hm).elim (k1 k (k2 k hk).1).2 (k2 k hk).2

theorem Stretch.call {n : Nat} (hn : n ∈ live) (h : ∀ e ∈ evs, view e = some (n, false)) : Stretch view live live evs := by
  induction evs with
  | nil => exact Stretch.none live (by simp)
  | cons e rest ih =>
    have he := h e (List.mem_cons_self ..)
    refine Stretch.trans (e1 := [e]) (fun dead hnd hdead => ?_) (ih (fun x hx => h x (List.mem_cons_of_mem _ hx)))
    refine ⟨by simp only [QuietG, he, and_true]; exact hdead n hn, ?_, ?_, hnd⟩
    · intro k hk; simp [touchedG, he] at hk; exact hk ▸ hn
    · intro k hk; exact ⟨hk, by simp [droppedG, he]⟩

theorem Stretch.drop {e : β} {n : Nat} (hv : view e = some (n, true)) (hn : n ∈ live)
    (h : live.Nodup → live'.Nodup ∧ ∀ k ∈ live', k ∈ live ∧ k ≠ n) : Stretch view live live' [e] := by
  intro dead hnd hdead
  refine ⟨by simp only [QuietG, hv, and_true]; exact hdead n hn, ?_, fun k hk => ⟨((h hnd).2 k hk).1, ?_⟩, (h hnd).1⟩
  · intro k hk; simp [touchedG, hv] at hk; exact hk ▸ hn
  · simp only [droppedG, List.filterMap_cons, hv, List.filterMap_nil, List.mem_singleton]
    exact ((h hnd).2 k hk).2

theorem Stretch.drop_head {e : β} {n : Nat} (l : List Nat) (hv : view e = some (n, true)) : Stretch view (n :: l) l [e] :=
  .drop hv (.head _) fun hnd => ⟨(List.nodup_cons.mp hnd).2, fun _ hk => ⟨.tail _ hk, fun e => (List.nodup_cons.mp hnd).1 (e ▸ hk)⟩⟩

theorem Stretch.perm {a a' b b' : List Nat} (h : Stretch view a b evs) (ha : a'.Perm a) (hb : b'.Perm b) : Stretch view a' b' evs := by
  intro dead hnd hdead
  obtain ⟨q, t, k, n⟩ := h dead (ha.nodup_iff.mp hnd) (fun x hx => hdead x (ha.mem_iff.mpr hx))
  exact ⟨q, fun x hx => ha.mem_iff.mpr (t x hx),
    fun x hx => ⟨ha.mem_iff.mpr (k x (hb.mem_iff.mp hx)).1, (k x (hb.mem_iff.mp hx)).2⟩, hb.nodup_iff.mpr n⟩

theorem Stretch.frame {a b : List Nat} (n : Nat) (h : Stretch view a b evs) : Stretch view (n :: a) (n :: b) evs := by
  intro dead hnd hdead
  obtain ⟨hna, hnda⟩ := List.nodup_cons.mp hnd
  obtain ⟨q, t, k, nd⟩ := h dead hnda (fun x hx => hdead x (List.mem_cons_of_mem _ hx))
  refine ⟨q, fun x hx => List.mem_cons_of_mem _ (t x hx), fun x hx => ?_, List.nodup_cons.mpr ⟨fun hb => hna (k n hb).1, nd⟩⟩
  rcases List.mem_cons.mp hx with rfl | hx
  · exact ⟨List.mem_cons_self .., fun hd => hna (t _ (droppedG_sub_touchedG view evs _ hd))⟩
  · exact ⟨List.mem_cons_of_mem _ (k x hx).1, (k x hx).2⟩

theorem Stretch.map {view' : γ → Option (Nat × Bool)} (f : γ → β) (hf : ∀ e, view (f e) = view' e) {evs : List γ}
    (h : Stretch view' live live' evs) : Stretch view live live' (evs.map f) := by
  have : (fun e => view (f e)) = view' := funext hf
  intro dead hnd hdead
  rw [quietG_map, droppedG_map, touchedG_map, this]
  exact h dead hnd hdead
end

end Selium.Sink
