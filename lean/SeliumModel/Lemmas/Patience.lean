import SeliumModel.Lemmas.Scan
/-
The answers a scripted sink still holds. A child that answers Pending holds the task's waker and fires it when its next
answer is due; so what bounds the number of polls that end blocked on a sink is the number of answers the sinks have left.
`patience` counts the readiness and flush answers (all that `FanoutMany` asks of a subscriber's sink), `pat3` also the
answers to `poll_close` (the request/reply router closes the sink of a replier it turns away). No operation adds an
answer; one that is answered Pending has used one up.
-/
namespace Selium.Sink
variable {α : Type}

def Child.patience (c : Child α) : Nat := c.readyQ.length + c.flushQ.length

def patience (es : List (Child α)) : Nat := (es.map Child.patience).sum

def Child.pat3 (c : Child α) : Nat := c.readyQ.length + c.flushQ.length + c.closeQ.length

def pat3 (es : List (Child α)) : Nat := (es.map Child.pat3).sum

theorem length_tail_lt_of_headD {β : Type} {q : List β} {d a : β} (h : q.headD d = a) (hne : a ≠ d) :
    q.tail.length < q.length := by
  cases q with
  | nil => exact absurd h.symm hne
  | cons b t => exact Nat.lt_succ_self _

theorem length_tail_le {β : Type} (q : List β) : q.tail.length ≤ q.length := List.length_tail ▸ Nat.sub_le ..

theorem afterReady_patience_le (c : Child α) : c.afterReady.patience ≤ c.patience :=
  Nat.add_le_add_right (length_tail_le _) _

theorem afterReady_patience_lt (c : Child α) (h : c.readyAns = .pending) : c.afterReady.patience < c.patience :=
  Nat.add_lt_add_right (length_tail_lt_of_headD h nofun) _

theorem afterFlush_patience_le (c : Child α) : c.afterFlush.patience ≤ c.patience :=
  Nat.add_le_add_left (length_tail_le _) _

theorem afterFlush_patience_lt (c : Child α) (h : c.flushAns = .pending) : c.afterFlush.patience < c.patience :=
  Nat.add_lt_add_left (length_tail_lt_of_headD h nofun) _

theorem afterReady_pat3_le (c : Child α) : c.afterReady.pat3 ≤ c.pat3 := Nat.add_le_add_right (afterReady_patience_le c) _

theorem afterReady_pat3_lt (c : Child α) (h : c.readyAns = .pending) : c.afterReady.pat3 < c.pat3 :=
  Nat.add_lt_add_right (afterReady_patience_lt c h) _

theorem afterFlush_pat3_le (c : Child α) : c.afterFlush.pat3 ≤ c.pat3 := Nat.add_le_add_right (afterFlush_patience_le c) _

theorem afterFlush_pat3_lt (c : Child α) (h : c.flushAns = .pending) : c.afterFlush.pat3 < c.pat3 :=
  Nat.add_lt_add_right (afterFlush_patience_lt c h) _

theorem afterClose_pat3_le (c : Child α) : c.afterClose.pat3 ≤ c.pat3 := Nat.add_le_add_left (length_tail_le _) _

theorem afterClose_pat3_lt (c : Child α) (h : c.closeAns = .pending) : c.afterClose.pat3 < c.pat3 :=
  Nat.add_lt_add_left (length_tail_lt_of_headD h nofun) _

theorem afterSend_pat3 (c : Child α) (x : α) : (c.afterSend x).pat3 = c.pat3 := rfl

theorem pollReady_patience (es : List (Child α)) :
    patience (pollReady es).2.1 ≤ patience es ∧ ((pollReady es).1 = .pending → patience (pollReady es).2.1 < patience es) :=
  (pollLoop_scan _ _ _ es).weight Child.patience afterReady_patience_le afterReady_patience_lt

theorem pollFlush_patience (es : List (Child α)) :
    patience (pollFlush es).2.1 ≤ patience es ∧ ((pollFlush es).1 = .pending → patience (pollFlush es).2.1 < patience es) :=
  (pollLoop_scan _ _ _ es).weight Child.patience afterFlush_patience_le afterFlush_patience_lt

theorem startSend_patience (x : α) (es : List (Child α)) : patience (startSend x es).1 ≤ patience es :=
  ((sendLoop_scan x es).weight Child.patience (fun _ => Nat.le_refl _) (fun c h => by split at h <;> cases h)).1

theorem routerReady_pat3 (o : List Nat) (es : List (Child RFrame)) :
    pat3 (routerReady o es).2.1 ≤ pat3 es ∧ ((routerReady o es).1 = .pending → pat3 (routerReady o es).2.1 < pat3 es) :=
  (pickLoop_scan _ _ _ o es).weight Child.pat3 afterReady_pat3_le afterReady_pat3_lt

theorem routerFlush_pat3 (o : List Nat) (es : List (Child RFrame)) :
    pat3 (routerFlush o es).2.1 ≤ pat3 es ∧ ((routerFlush o es).1 = .pending → pat3 (routerFlush o es).2.1 < pat3 es) :=
  (pickLoop_scan _ _ _ o es).weight Child.pat3 afterFlush_pat3_le afterFlush_pat3_lt

end Selium.Sink
