import SeliumModel.Server.Registry
/- `handle_stream` and the map of topics: what one registration looks at and what it changes. -/
namespace Selium.Server
open Selium Selium.Topic Selium.Gen.Server

/-- obligations on the facts read from the source. No proof uses the second: it guards `c11_refusal_has_code`, which names
    the code as `topicPatternMismatch.getD unknownError` and would silently speak of `unknownError` if the source stopped
    defining TOPIC_PATTERN_MISMATCH. -/
theorem checks_pattern : checksPattern = true ∧ topicPatternMismatch.isSome = true := by decide

theorem lookup_append_self (r : Registry) (n : Name) (p : Pattern) (h : r.lookup n = none) :
    Registry.lookup (r ++ [(n, p)]) n = some p := by
  unfold Registry.lookup at h ⊢
  rw [List.find?_append, Option.map_eq_none_iff.mp h]
  simp

theorem lookup_append_other (r : Registry) (n m : Name) (p : Pattern) (h : n ≠ m) :
    Registry.lookup (r ++ [(n, p)]) m = r.lookup m := by
  unfold Registry.lookup
  simp [List.find?_append, h]

theorem handleStream_other (r : Registry) (f : Option First) (other : Name)
    (h : ∀ role, f ≠ some (.register role other)) :
    (handleStream r f).registry.lookup other = r.lookup other ∧
    ∀ role, (handleStream r f).enqueued ≠ some (other, role) := by
  revert h
  fun_cases handleStream r f
  case case4 role name _ _ =>
    -- a new topic is created: under the name in the frame
    intro h
    have hne : name ≠ other := fun heq => h role (by rw [heq])
    exact ⟨lookup_append_other r name other _ hne, fun role' e => hne (Prod.mk.inj (Option.some.inj e)).1⟩
  case case5 role name _ _ =>
    exact fun h => ⟨rfl, fun role' e => h role (by rw [(Prod.mk.inj (Option.some.inj e)).1])⟩
  all_goals exact fun _ => ⟨rfl, fun _ => (Option.some_ne_none _).symm⟩

theorem handleStream_local (r r' : Registry) (role : Role) (n : Name) (h : r.lookup n = r'.lookup n) :
    (handleStream r (some (.register role n))).enqueued = (handleStream r' (some (.register role n))).enqueued ∧
    (handleStream r (some (.register role n))).answer = (handleStream r' (some (.register role n))).answer ∧
    (handleStream r (some (.register role n))).registry.lookup n =
      (handleStream r' (some (.register role n))).registry.lookup n := by
  -- the two results, each computed once; the registry is unchanged except when a new topic is created
  generalize ha : handleStream r (some (.register role n)) = a, hb : handleStream r' (some (.register role n)) = b
  rw [handleStream] at ha hb
  by_cases hv : (!isValid n.ns n.tp) = true
  · rw [if_pos hv] at ha hb
    subst ha hb
    exact ⟨rfl, rfl, h⟩
  · rw [if_neg hv] at ha hb
    rw [h] at ha
    cases hl : r'.lookup n with
    | none =>
      rw [hl] at ha hb
      subst ha hb
      exact ⟨rfl, rfl, (lookup_append_self r n _ (h.trans hl)).trans (lookup_append_self r' n _ hl).symm⟩
    | some p =>
      rw [hl] at ha hb
      dsimp only at ha hb
      by_cases hp : p = role.pattern
      · rw [if_pos hp] at ha hb
        subst ha hb
        exact ⟨rfl, rfl, h⟩
      · rw [if_neg hp, if_pos checks_pattern.1] at ha hb
        subst ha hb
        exact ⟨rfl, rfl, h⟩

end Selium.Server
