import SeliumModel.Wire.Batch
import SeliumModel.Lemmas.Basic

/-! `decode_message_batch` as modelled: total, bounded by its input, and inverse to `encodeBatch`. -/
namespace Selium.Wire
open Selium

theorem decodeBatchN_no_panic (n : Nat) (b : Bytes) (s : String) : decodeBatchN n b ≠ .panic s := by
  -- `case6`, the only arm that returns a panic, passes on one from the rest of the batch
  fun_induction decodeBatchN n b generalizing s with
  | case6 _ _ _ _ s' h' ih => exact absurd h' (ih s')
  | _ => simp

theorem decodeBatch_no_panic (b : Bytes) (s : String) : decodeBatch b ≠ .panic s :=
  Res.ite_ne_panic nofun (decodeBatchN_no_panic _ _ _)

theorem length_drop_add {l : Bytes} {n : Nat} (h : ¬ l.length < n) : (l.drop n).length + n = l.length := by
  rw [List.length_drop, Nat.sub_add_cancel (Nat.not_lt.1 h)]

theorem decodeBatchN_bounded (n : Nat) (b : Bytes) (ms : List Bytes) :
    decodeBatchN n b = .ok ms → (ms.map List.length).sum + 8 * ms.length ≤ b.length := by
  -- `case4`: a message is read and the rest decodes; no other arm returns a non-empty list
  fun_induction decodeBatchN n b generalizing ms with
  | case4 n b h8 hl ms' hrec ih =>
    intro h; cases h
    -- the marker, the message and what the rest gives (`ih`) are consecutive pieces of `b`
    have := ih ms' hrec
    have := length_drop_add h8
    have := length_drop_add hl
    rw [List.map_cons, List.sum_cons, List.length_cons, List.length_take_of_le (Nat.not_lt.1 hl)]
    omega
  | _ => intro h; cases h <;> simp

theorem decodeBatch_bounded (b : Bytes) (ms : List Bytes) (h : decodeBatch b = .ok ms) :
    (ms.map List.length).sum + 8 * ms.length + 8 ≤ b.length := by
  unfold decodeBatch at h
  split at h
  · cases h
  · next h8 => exact length_drop_add h8 ▸ Nat.add_le_add_right (decodeBatchN_bounded _ _ _ h) 8

theorem decodeBatchN_cons (n : Nat) (m r : Bytes) (hm : m.length < 256 ^ 8) :
    decodeBatchN (n + 1) (beBytes 8 m.length ++ m ++ r) = (decodeBatchN n r).map (m :: ·) := by
  have h8 := beBytes_length 8 m.length
  rw [decodeBatchN, List.append_assoc, List.take_left' h8, List.drop_left' h8, beNat_beBytes 8 _ hm,
    if_neg (by simp), if_neg (by simp), List.take_left' rfl, List.drop_left' rfl]
  cases decodeBatchN n r <;> rfl

theorem decodeBatchN_encode (ms : List Bytes) (r : Bytes) (h : ∀ m ∈ ms, m.length < 256 ^ 8) :
    decodeBatchN ms.length (encodeBatchBody ms ++ r) = .ok ms := by
  induction ms with
  | nil => rfl
  | cons m ms ih =>
    rw [encodeBatchBody, List.length_cons, List.append_assoc, decodeBatchN_cons _ _ _ (h m (by simp)),
      ih fun x hx => h x (by simp [hx])]
    rfl

theorem decodeBatch_encodeBatch (ms : List Bytes) (hn : ms.length < 256 ^ 8) (hm : ∀ m ∈ ms, m.length < 256 ^ 8) :
    decodeBatch (encodeBatch ms) = .ok ms := by
  have h8 := beBytes_length 8 ms.length
  rw [decodeBatch, encodeBatch, if_neg (by simp), List.take_left' h8, List.drop_left' h8, beNat_beBytes 8 _ hn]
  simpa using decodeBatchN_encode ms [] hm

end Selium.Wire
