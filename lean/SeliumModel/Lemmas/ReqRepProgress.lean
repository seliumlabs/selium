import SeliumModel.Lemmas.StreamMap
import SeliumModel.Lemmas.Router
import SeliumModel.Lemmas.Patience
import SeliumModel.Lemmas.ReqRepBlocks
/-
The two quantities that bound the request/reply router (C09, request/reply half): `rwork s`, the data one poll can work
on, and `rpat s`, the patience of the peers' sinks: the readiness / flush / close answers that the requestor sinks, the
bound replier's sink, a rejected replier's sink and the sinks of queued registrations still hold. Each block has one
statement, `partX_effect`: an `Effect`, except for block G, the last, which never falls through: it returns in the same
way, or goes round again with the state untouched, and not if both flags are set. Hence an iteration returns or consumes
work (`iter_effect`), a poll needs at most `rwork s + 1` iterations (`rrPoll_terminates`) and a poll that ends blocked
has lowered `rpat` (`rrPoll_effect`).
-/
namespace Selium.Sink
variable {α : Type}

theorem pat3_filter_le (es : List (Child RFrame)) (p : Child RFrame → Bool) : pat3 (es.filter p) ≤ pat3 es := by
  induction es with
  | nil => exact Nat.le_refl _
  | cons a l ih =>
    rw [List.filter_cons]
    split
    · exact Nat.add_le_add_left ih _
    · exact Nat.le_trans ih (Nat.le_add_left _ _)

theorem routerSend_pat3 (f : RFrame) (es : List (Child RFrame)) : pat3 (routerSend f es).2.1 ≤ pat3 es := by
  refine routerSend_cases (motive := fun r => pat3 r.2.1 ≤ pat3 es) f es (fun _ => Nat.le_refl _) ?_
    (fun _ _ _ _ _ _ _ _ _ => pat3_filter_le _ _)
  intro hd p v c _ _ _ _ _
  exact Nat.le_of_eq (congrArg List.sum (map_afterSend Child.pat3 afterSend_pat3 ..))

end Selium.Sink

namespace Selium.Route
open Selium.Sink

/- Where the weights come from. An answer of a stream weighs 2, because taking it may leave a frame buffered, which
   weighs 1 (`wRep_pop`, `partF_effect`). A rejection weighs 2 until its error frame is sent and 1 until its sink is
   closed (`partB_effect`). A bound replier weighs a constant more than its stream, so that unbinding it consumes work.
   A queued socket weighs one more than what adopting it adds where it lands (`adoptSock_effect`): a requestor's stream
   (`streamsWeight` counts its end as an answer), the bound replier, or the rejection a late replier becomes. The bound
   replier's constant 3 is a choice: it has to be at least 2 for a queued replier to outweigh that rejection, and 2 would do. -/
def rsockWeight : RSock → Nat
  | .client _ script => 2 * (script.length + 1) + 1
  | .server _ script => 2 * script.length + 4

def srvWeight : Option Replier → Nat
  | some r => 2 * r.stream.length + 3
  | none => 0

def errWeight : Option Rejection → Nat
  | some j => if j.toSend then 2 else 1
  | none => 0

def rwork (s : RR) : Nat :=
  (s.queue.map rsockWeight).sum + 2 * streamsWeight s.streams + srvWeight s.server +
    s.bufReq.toList.length + s.bufRep.toList.length + errWeight s.bufErr

theorem rwork_log (s : RR) (es : List REv) : rwork (log s es) = rwork s := rfl

def rsockPat : RSock → Nat
  | .client k _ => k.pat3
  | .server k _ => k.pat3

def srvPat : Option Replier → Nat
  | some r => r.sink.pat3
  | none => 0

def errPat : Option Rejection → Nat
  | some j => j.sink.pat3
  | none => 0

def rpat (s : RR) : Nat := pat3 s.sinks + srvPat s.server + errPat s.bufErr + (s.queue.map rsockPat).sum

/-! `rwork` by the four groups within which the blocks trade one thing for another (the replier's stream for a
    buffered reply, the requestors' streams for a buffered request). -/
def wReq (st : List (StreamSt RFrame)) (bq : Option RFrame) : Nat := 2 * streamsWeight st + bq.toList.length
def wRep (sv : Option Replier) (bp : Option RFrame) : Nat := srvWeight sv + bp.toList.length

theorem rwork_groups (s : RR) : rwork s =
    (s.queue.map rsockWeight).sum + wReq s.streams s.bufReq + wRep s.server s.bufRep + errWeight s.bufErr := by
  unfold rwork wReq wRep
  rw [Nat.add_right_comm _ (srvWeight _), Nat.add_assoc _ (2 * _), Nat.add_assoc _ (srvWeight _)]

section mono
variable {s t : RR}

/- Both measures are monotone in each of their components. A component the step at hand does not touch is closed by
   `Nat.le.refl`, through the record update; so what is left to show is about the one component that changed. -/
theorem rwork_le (hq : (t.queue.map rsockWeight).sum ≤ (s.queue.map rsockWeight).sum)
    (hreq : wReq t.streams t.bufReq ≤ wReq s.streams s.bufReq) (hrep : wRep t.server t.bufRep ≤ wRep s.server s.bufRep)
    (he : errWeight t.bufErr ≤ errWeight s.bufErr) : rwork t ≤ rwork s := by
  rw [rwork_groups, rwork_groups s]
  exact Nat.add_le_add (Nat.add_le_add (Nat.add_le_add hq hreq) hrep) he

theorem rwork_lt_req (hq : (t.queue.map rsockWeight).sum ≤ (s.queue.map rsockWeight).sum)
    (hreq : wReq t.streams t.bufReq < wReq s.streams s.bufReq) (hrep : wRep t.server t.bufRep ≤ wRep s.server s.bufRep)
    (he : errWeight t.bufErr ≤ errWeight s.bufErr) : rwork t < rwork s := by
  rw [rwork_groups, rwork_groups s]
  exact Nat.add_lt_add_of_lt_of_le (Nat.add_lt_add_of_lt_of_le (Nat.add_lt_add_of_le_of_lt hq hreq) hrep) he

theorem rwork_lt_rep (hq : (t.queue.map rsockWeight).sum ≤ (s.queue.map rsockWeight).sum)
    (hreq : wReq t.streams t.bufReq ≤ wReq s.streams s.bufReq) (hrep : wRep t.server t.bufRep < wRep s.server s.bufRep)
    (he : errWeight t.bufErr ≤ errWeight s.bufErr) : rwork t < rwork s := by
  rw [rwork_groups, rwork_groups s]
  exact Nat.add_lt_add_of_lt_of_le (Nat.add_lt_add_of_le_of_lt (Nat.add_le_add hq hreq) hrep) he

theorem rwork_lt_err (hq : (t.queue.map rsockWeight).sum ≤ (s.queue.map rsockWeight).sum)
    (hreq : wReq t.streams t.bufReq ≤ wReq s.streams s.bufReq) (hrep : wRep t.server t.bufRep ≤ wRep s.server s.bufRep)
    (he : errWeight t.bufErr < errWeight s.bufErr) : rwork t < rwork s := by
  rw [rwork_groups, rwork_groups s]
  exact Nat.add_lt_add_of_le_of_lt (Nat.add_le_add (Nat.add_le_add hq hreq) hrep) he

theorem rpat_le (hk : pat3 t.sinks ≤ pat3 s.sinks) (hv : srvPat t.server ≤ srvPat s.server)
    (he : errPat t.bufErr ≤ errPat s.bufErr) (hq : (t.queue.map rsockPat).sum ≤ (s.queue.map rsockPat).sum) :
    rpat t ≤ rpat s :=
  Nat.add_le_add (Nat.add_le_add (Nat.add_le_add hk hv) he) hq

theorem rpat_lt_sinks (hk : pat3 t.sinks < pat3 s.sinks) (hv : srvPat t.server ≤ srvPat s.server)
    (he : errPat t.bufErr ≤ errPat s.bufErr) (hq : (t.queue.map rsockPat).sum ≤ (s.queue.map rsockPat).sum) :
    rpat t < rpat s :=
  Nat.add_lt_add_of_lt_of_le (Nat.add_lt_add_of_lt_of_le (Nat.add_lt_add_of_lt_of_le hk hv) he) hq

theorem rpat_lt_srv (hk : pat3 t.sinks ≤ pat3 s.sinks) (hv : srvPat t.server < srvPat s.server)
    (he : errPat t.bufErr ≤ errPat s.bufErr) (hq : (t.queue.map rsockPat).sum ≤ (s.queue.map rsockPat).sum) :
    rpat t < rpat s :=
  Nat.add_lt_add_of_lt_of_le (Nat.add_lt_add_of_lt_of_le (Nat.add_lt_add_of_le_of_lt hk hv) he) hq

theorem rpat_lt_err (hk : pat3 t.sinks ≤ pat3 s.sinks) (hv : srvPat t.server ≤ srvPat s.server)
    (he : errPat t.bufErr < errPat s.bufErr) (hq : (t.queue.map rsockPat).sum ≤ (s.queue.map rsockPat).sum) :
    rpat t < rpat s :=
  Nat.add_lt_add_of_lt_of_le (Nat.add_lt_add_of_le_of_lt (Nat.add_le_add hk hv) he) hq

end mono

def ROutcome.isBlocked : ROutcome → Bool
  | .blockedOnReplier | .blockedOnRejected | .blockedOnRequestor => true
  | _ => false

abbrev Spent (s : RR) (o : ROutcome) (t : RR) : Prop :=
  rwork t ≤ rwork s ∧ rpat t ≤ rpat s ∧ (o.isBlocked = true → rpat t < rpat s)

/-- What a block (an iteration) started in `s` does to the two measures, by the way it ends. Falling through to the next
    block may, instead of consuming work, leave it as it is and establish `post`: what the next block needs to know about
    the loop-local flags. -/
abbrev Effect (post : RR → Prop) (s : RR) : Flow → Prop :=
  Flow.Post (fun o t => o ≠ .outOfFuel ∧ Spent s o t)
    (fun t => rpat t ≤ rpat s ∧ (rwork t < rwork s ∨ (rwork t = rwork s ∧ post t)))
    (fun t => rpat t ≤ rpat s ∧ rwork t < rwork s)

theorem Spent.trans {s t t' : RR} {o : ROutcome} (h : Spent t o t') (hw : rwork t ≤ rwork s) (hp : rpat t ≤ rpat s) :
    Spent s o t' :=
  ⟨Nat.le_trans h.1 hw, Nat.le_trans h.2.1 hp, fun hb => Nat.lt_of_lt_of_le (h.2.2 hb) hp⟩

theorem Spent.of_lt {s t : RR} {o : ROutcome} (hw : rwork t ≤ rwork s) (hp : rpat t < rpat s) : Spent s o t :=
  ⟨hw, Nat.le_of_lt hp, fun _ => hp⟩

/-- the effect of a block, seen from the state `s` the iteration started in: the blocks before it fell through to `t` -/
theorem Effect.trans {K K' : RR → Prop} {s t : RR} {f : Flow} (h : Effect (fun t' => K t → K' t') t f)
    (ht : rpat t ≤ rpat s ∧ (rwork t < rwork s ∨ (rwork t = rwork s ∧ K t))) : Effect K' s f := by
  have hle : rwork t ≤ rwork s := ht.2.elim Nat.le_of_lt fun h => Nat.le_of_eq h.1
  refine h.mono (fun _ _ h => ⟨h.1, h.2.trans hle ht.1⟩) (fun _ h => ⟨Nat.le_trans h.1 ht.1, ?_⟩)
    (fun _ h => ⟨Nat.le_trans h.1 ht.1, Nat.lt_of_lt_of_le h.2 hle⟩)
  rcases h.2 with h2 | ⟨h2, hk⟩
  · exact .inl (Nat.lt_of_lt_of_le h2 hle)
  · exact ht.2.imp (lt_of_eq_of_lt h2) fun h => ⟨h2.trans h.1, hk h.2⟩

theorem Effect.skip {post : RR → Prop} {s : RR} (h : post s) : Effect post s (.next s) :=
  ⟨.refl, .inr ⟨rfl, h⟩⟩

theorem wRep_sink_le {s : RR} {r : Replier} (hr : s.server = some r) (k : Child RFrame) :
    wRep (some { r with sink := k }) s.bufRep ≤ wRep s.server s.bufRep := by rw [hr]; exact .refl

theorem unbind_spent (s : RR) (r : Replier) : rwork (unbind s r) ≤ rwork s ∧ rpat (unbind s r) ≤ rpat s :=
  ⟨rwork_le .refl .refl (Nat.add_le_add_right (Nat.zero_le _) _) .refl, rpat_le .refl (Nat.zero_le _) .refl .refl⟩

theorem flushRouter_rpat (s : RR) :
    rpat (flushRouter s).2 ≤ rpat s ∧ ((flushRouter s).1 = .pending → rpat (flushRouter s).2 < rpat s) :=
  ⟨rpat_le (routerFlush_pat3 s.ko s.sinks).1 .refl .refl .refl,
   fun h => rpat_lt_sinks ((routerFlush_pat3 s.ko s.sinks).2 h) .refl .refl .refl⟩

theorem flushReplier_effect (s : RR) (r : Replier) (hr : s.server = some r) (after : RR → Flow) :
    (∃ t, flushReplier s r after = .ret .blockedOnReplier t ∧ Spent s .blockedOnReplier t) ∨
    (∃ t, flushReplier s r after = after t ∧ rwork t ≤ rwork s ∧ rpat t ≤ rpat s ∧ t.serverPending = s.serverPending) := by
  fun_cases flushReplier s r after
  case case1 ha =>
    -- `hr ▸`: the patience held for the bound replier is its sink's
    exact .inl ⟨_, rfl, .of_lt (rwork_le .refl .refl (wRep_sink_le hr _) .refl)
      (rpat_lt_srv .refl (hr ▸ afterFlush_pat3_lt _ ha) .refl .refl)⟩
  case case2 => exact .inr ⟨_, rfl, (unbind_spent _ r).1, (unbind_spent _ r).2, rfl⟩
  case case3 =>
    exact .inr ⟨_, rfl, rwork_le .refl .refl (wRep_sink_le hr _) .refl,
      rpat_le .refl (hr ▸ afterFlush_pat3_le _) .refl .refl, rfl⟩

/-! Adopting a socket moves it from the channel to where it is worked on: what it adds to the work there (`a`, `b` or
    `c`) is less than its weight in the channel, and its patience goes with it. -/
theorem adopt_rwork {s t : RR} {a b c : Nat}
    (hq : (t.queue.map rsockWeight).sum + a + b + c < (s.queue.map rsockWeight).sum)
    (hreq : wReq t.streams t.bufReq ≤ wReq s.streams s.bufReq + a) (hrep : wRep t.server t.bufRep ≤ wRep s.server s.bufRep + b)
    (he : errWeight t.bufErr ≤ errWeight s.bufErr + c) : rwork t < rwork s := by
  rw [rwork_groups, rwork_groups s]; omega

theorem adopt_rpat {s t : RR} {a b c : Nat} (hq : (t.queue.map rsockPat).sum + a + b + c ≤ (s.queue.map rsockPat).sum)
    (hk : pat3 t.sinks ≤ pat3 s.sinks + a) (hv : srvPat t.server ≤ srvPat s.server + b)
    (he : errPat t.bufErr ≤ errPat s.bufErr + c) : rpat t ≤ rpat s := by
  unfold rpat; omega

theorem adoptSock_effect (s : RR) (sock : RSock) (q : List RSock) (hq : s.queue = sock :: q) :
    rpat (adoptSock s sock q) ≤ rpat s ∧ rwork (adoptSock s sock q) < rwork s := by
  have hQ : (q.map rsockWeight).sum + rsockWeight sock = (s.queue.map rsockWeight).sum := by rw [hq]; exact Nat.add_comm _ _
  have hP : (q.map rsockPat).sum + rsockPat sock = (s.queue.map rsockPat).sum := by rw [hq]; exact Nat.add_comm _ _
  fun_cases adoptSock s sock q
  case case1 sink script =>
    -- a requestor: its stream and its sink join the others
    refine ⟨adopt_rpat (a := sink.pat3) (b := 0) (c := 0) (Nat.le_of_eq hP) ?_ .refl .refl,
      adopt_rwork (a := 2 * (script.length + 1)) (b := 0) (c := 0) (Nat.lt_of_lt_of_eq (Nat.lt_succ_self _) hQ) ?_ .refl .refl⟩
    · show pat3 (s.sinks ++ [_]) ≤ _
      simp only [pat3, List.map_append, List.sum_append]
      exact .refl
    · show 2 * streamsWeight (s.streams ++ [_]) + _ ≤ 2 * streamsWeight s.streams + _ + _
      simp only [streamsWeight, List.map_append, List.sum_append, List.map_cons, List.map_nil, List.sum_cons, List.sum_nil]
      omega
  case case2 sink script r hs =>
    -- a late replier: it becomes the pending rejection
    exact ⟨adopt_rpat (a := 0) (b := 0) (c := sink.pat3) (Nat.le_of_eq hP) .refl .refl (Nat.le_add_left _ _),
      adopt_rwork (a := 0) (b := 0) (c := 2 * script.length + 3) (Nat.lt_of_lt_of_eq (Nat.lt_succ_self _) hQ) .refl .refl
        (Nat.le_add_left 2 _)⟩
  case case3 sink script hs =>
    -- the replier: it is bound
    refine ⟨adopt_rpat (a := 0) (b := sink.pat3) (c := 0) (Nat.le_of_eq hP) .refl (Nat.le_add_left _ _) .refl,
      adopt_rwork (a := 0) (b := 2 * script.length + 3) (c := 0) (Nat.lt_of_lt_of_eq (Nat.lt_succ_self _) hQ) .refl ?_ .refl⟩
    show 2 * script.length + 3 + s.bufRep.toList.length ≤ wRep s.server s.bufRep + _
    rw [hs]
    show _ ≤ 0 + s.bufRep.toList.length + _
    omega

/-! What the next block needs to know about the loop-local flags when nothing has been consumed so far. The letter names
the block after which the predicate holds (`Flags0`: after A, B and H). `Flags0`: the replier's flag is as the iteration
set it. `FlagsD`: `Flags0`, and no replier is bound or a reply is buffered. `FlagsE`: the replier's flag is set (E fell
through without consuming, so no reply was buffered, so by `FlagsD` no replier is bound). `FlagsF`: both flags are set;
then G returns. -/

def Flags0 (s : RR) : Prop := s.serverPending = s.server.isNone
def FlagsD (s : RR) : Prop := Flags0 s ∧ (s.server.isNone ∨ s.bufRep.isSome)
def FlagsE (s : RR) : Prop := s.serverPending = true
def FlagsF (s : RR) : Prop := s.serverPending = true ∧ s.streamPending = true

theorem partA_effect (s : RR) : Effect (fun t => Flags0 s → Flags0 t) s (partA s) := by
  fun_cases partA s
  case case1 f r hr hf ha =>
    exact ⟨nofun, .of_lt (rwork_le .refl .refl (wRep_sink_le hr _) .refl)
      (rpat_lt_srv .refl (hr ▸ afterReady_pat3_lt _ ha) .refl .refl)⟩
  case case2 f r hr hf ha =>
    refine ⟨(unbind_spent _ r).2, .inl (rwork_lt_rep .refl .refl ?_ .refl)⟩
    rw [hr]; exact Nat.add_lt_add_right (Nat.succ_pos _) _
  case case3 f r hr hf ha _ | case4 f r hr hf ha _ =>
    -- the request is handed to the replier's sink, or refused by it: either way it is no longer buffered
    exact ⟨rpat_le .refl (hr ▸ afterReady_pat3_le _) .refl .refl,
      .inl (rwork_lt_req .refl (by rw [hf]; exact Nat.lt_succ_self _) (wRep_sink_le hr _) .refl)⟩
  case case5 => exact .skip id

theorem partB_effect (s : RR) : Effect (fun t => Flags0 s → Flags0 t) s (partB s) := by
  have hW : ∀ {j}, s.bufErr = some j → errWeight s.bufErr = if j.toSend then 2 else 1 := fun hj => by rw [hj]; rfl
  have h0 : ∀ {j}, s.bufErr = some j → errWeight none < errWeight s.bufErr := fun hj => by
    rw [hW hj]; split <;> exact Nat.succ_pos _
  fun_cases partB s
  case case1 => exact .skip id
  case case2 j hj _ ha =>
    exact ⟨nofun, .of_lt (rwork_le .refl .refl .refl (Nat.le_of_eq (hW hj).symm))
      (rpat_lt_err .refl .refl (hj ▸ afterReady_pat3_lt _ ha) .refl)⟩
  case case4 j hj hts _ _ =>
    -- the error frame is handed over: what is left is to close the sink
    exact ⟨rpat_le .refl .refl (hj ▸ afterReady_pat3_le _) .refl,
      rwork_lt_err .refl .refl .refl (by rw [hW hj, if_pos hts]; exact Nat.lt_succ_self 1)⟩
  case case6 j hj _ ha =>
    exact ⟨nofun, .of_lt (rwork_le .refl .refl .refl (Nat.le_of_eq (hW hj).symm))
      (rpat_lt_err .refl .refl (hj ▸ afterClose_pat3_lt _ ha) .refl)⟩
  case case3 j hj _ _ | case5 j hj _ _ _ | case7 j hj _ _ =>
    -- the rejection is over
    exact ⟨rpat_le .refl .refl (Nat.zero_le _) .refl, .inl (rwork_lt_err .refl .refl .refl (h0 hj))⟩

theorem partH_effect (s : RR) : Effect (fun t => Flags0 s → Flags0 t) s (partH s) := by
  have hf := flushRouter_rpat s
  fun_cases partH s
  case case1 sock q hq => exact adoptSock_effect s sock q hq
  case case2 _ _ hfl => exact ⟨nofun, .of_lt .refl (hf.2 hfl)⟩
  case case3 => exact ⟨nofun, .refl, hf.1, nofun⟩
  case case4 => exact ⟨nofun, .refl, .refl, nofun⟩
  case case5 => exact ⟨.refl, .inr ⟨rfl, id⟩⟩

theorem wRep_pop {s : RR} {r : Replier} {a : SAns RFrame} {q : List (SAns RFrame)} (hs : s.server = some r)
    (hb : s.bufRep = none) (hst : r.stream = a :: q) (b : Option RFrame) :
    wRep (some { r with stream := q }) b < wRep s.server s.bufRep := by
  rw [hs, hb]
  show 2 * q.length + 3 + b.toList.length < 2 * r.stream.length + 3 + 0
  rw [hst]
  cases b
  · exact Nat.lt_succ_of_lt (Nat.lt_succ_self _)
  · exact Nat.lt_succ_self _

theorem partD_effect (s : RR) : Effect (fun t => Flags0 s → FlagsD t) s (partD s) := by
  fun_cases partD s
  case case1 r hb hs _ q hst | case2 r hb hs q hst | case3 r hb hs q hst =>
    exact ⟨rpat_le .refl (hs ▸ .refl) .refl .refl, .inl (rwork_lt_rep .refl .refl (wRep_pop hs hb hst _) .refl)⟩
  case case4 r hb hs _ ha =>
    exact ⟨nofun, .of_lt (rwork_le .refl .refl (wRep_sink_le hs _) .refl)
      (rpat_lt_srv .refl (hs ▸ afterFlush_pat3_lt _ ha) .refl .refl)⟩
  case case5 r hb hs _ _ hfl =>
    -- the replier has finished and its sink is flushed; the requestors' sinks are not
    exact ⟨nofun, .of_lt (rwork_le .refl .refl (wRep_sink_le hs _) .refl) (Nat.lt_of_lt_of_le ((flushRouter_rpat _).2 hfl)
      (rpat_le .refl (hs ▸ afterFlush_pat3_le _) .refl .refl))⟩
  case case6 r hb hs _ _ hfl =>
    -- both are flushed: the replier is unbound
    refine ⟨Nat.le_trans (unbind_spent _ _).2 (Nat.le_trans (flushRouter_rpat _).1
        (rpat_le .refl (hs ▸ afterFlush_pat3_le _) .refl .refl)),
      .inl (rwork_lt_rep .refl .refl ?_ .refl)⟩
    rw [hs]; exact Nat.add_lt_add_right (Nat.succ_pos _) _
  case case7 hne =>
    refine .skip fun h => ⟨h, ?_⟩
    cases hs : s.server with
    | none => exact .inl rfl
    | some r =>
      cases hb : s.bufRep with
      | some f => exact .inr rfl
      | none => exact absurd hb (hne r hs)

theorem partE_effect (s : RR) : Effect (fun t => FlagsD s → FlagsE t) s (partE s) := by
  have hr := routerReady_pat3 s.ko s.sinks
  fun_cases partE s
  case case1 hb => exact .skip fun h => h.1.trans (h.2.resolve_right (by rw [hb]; nofun))
  case case2 _ _ hrd => exact ⟨nofun, .of_lt .refl (rpat_lt_sinks (hr.2 hrd) .refl .refl .refl)⟩
  case case3 f hb _ =>
    -- the reply is routed: delivered, refused or discarded, it is no longer buffered
    exact ⟨rpat_le (Nat.le_trans (routerSend_pat3 f _) hr.1) .refl .refl .refl,
      .inl (rwork_lt_rep .refl .refl (by rw [hb]; exact Nat.lt_succ_self _) .refl)⟩

theorem partF_effect (s : RR) : Effect (fun t => FlagsE s → FlagsF t) s (partF s) := by
  have hle := smPoll_weight_le (s.so.headD 0) s.streams
  -- unless the map is empty (and answers `none`) the poll consumes something, which outweighs a newly buffered request
  have hlt : ∀ {r es evs}, smPoll (s.so.headD 0) s.streams = (r, es, evs) → r ≠ .none → ∀ bq : Option RFrame,
      bq.toList.length ≤ s.bufReq.toList.length + 1 → wReq es bq < wReq s.streams s.bufReq := by
    intro r es evs h hr bq hbq
    have : streamsWeight es < streamsWeight s.streams := by
      have := smPoll_weight_lt (s.so.headD 0) s.streams fun he => hr (by rw [he] at h; cases h; rfl)
      rwa [h] at this
    unfold wReq; omega
  -- after the flushes: no work consumed only if nothing was there to consume, and then both sides are waiting
  have hnext : ∀ t, rwork t ≤ rwork s → rpat t ≤ rpat s → t.serverPending = s.serverPending →
      Effect (fun t => FlagsE s → FlagsF t) s (.next { t with streamPending := true }) := fun t hw hp hsp =>
    ⟨hp, (Nat.lt_or_eq_of_le hw).imp_right fun h => ⟨h, fun hk => ⟨hsp.trans hk, rfl⟩⟩⟩
  have hw : ∀ {es evs}, smPoll (s.so.headD 0) s.streams = (.none, es, evs) →
      rwork (log { s with streams := es, so := s.so.drop evs.length } (evs.map REv.c)) ≤ rwork s := fun h => by
    rw [h] at hle
    exact rwork_le .refl (Nat.add_le_add_right (Nat.mul_le_mul_left 2 hle) _) .refl .refl
  fun_cases partF s
  case case1 _ _ _ es evs h =>
    exact ⟨.refl, .inl (rwork_lt_req .refl (hlt h nofun _ (Nat.succ_le_succ (Nat.zero_le _))) .refl .refl)⟩
  case case2 _ _ es evs h | case3 _ es evs h | case4 es evs h =>
    exact ⟨.refl, .inl (rwork_lt_req .refl (hlt h nofun _ (Nat.le_succ _)) .refl .refl)⟩
  -- every requestor stream has ended: flush the requestors' sinks, then the replier's
  case case5 es evs h hfl => exact ⟨nofun, .of_lt (hw h) ((flushRouter_rpat _).2 hfl)⟩
  case case6 es evs h _ r hr =>
    rcases flushReplier_effect _ r hr (fun s' => .next { s' with streamPending := true }) with ⟨t, ht, hsp⟩ | ⟨t, ht, hw', hp, h1⟩
    · rw [ht]; exact ⟨nofun, hsp.trans (hw h) (flushRouter_rpat _).1⟩
    · rw [ht]; exact hnext t (Nat.le_trans hw' (hw h)) (Nat.le_trans hp (flushRouter_rpat _).1) h1
  case case7 es evs h _ _ => exact hnext _ (hw h) (flushRouter_rpat _).1 rfl

theorem partG_effect (s : RR) :
    (partG s).Post (fun o t => o ≠ .outOfFuel ∧ Spent s o t) (fun _ => False) (fun t => t = s ∧ ¬ FlagsF s) := by
  fun_cases partG s
  case case1 _ hfl => exact ⟨nofun, .of_lt .refl ((flushRouter_rpat s).2 hfl)⟩
  case case2 _ _ r hr =>
    rcases flushReplier_effect _ r hr (fun s' => .ret .waiting s') with ⟨t, ht, hsp⟩ | ⟨t, ht, hw, hp, _⟩
    · rw [ht]; exact ⟨nofun, hsp.trans .refl (flushRouter_rpat s).1⟩
    · rw [ht]; exact ⟨nofun, hw, Nat.le_trans hp (flushRouter_rpat s).1, nofun⟩
  case case3 => exact ⟨nofun, .refl, (flushRouter_rpat s).1, nofun⟩
  case case4 hb => exact ⟨rfl, fun hk => hb (by rw [hk.1, hk.2]; rfl)⟩

theorem iter_effect (s : RR) : Effect (fun _ => False) s (iter s) := by
  refine iter_post s (N₁ := fun t => _ ∧ (_ ∨ (_ ∧ Flags0 t))) ?_ (fun t h => (partB_effect t).trans h)
    (fun t h => (partH_effect t).trans h) (fun t h => (partD_effect t).trans h) (fun t h => (partE_effect t).trans h)
    (fun t h => (partF_effect t).trans h) fun t h => ?_
  · -- the flags are reset at the top of the loop; they are not counted
    exact (partA_effect { s with serverPending := s.server.isNone, streamPending := false }).mono (fun _ _ => id)
      (fun _ h => ⟨h.1, h.2.imp_right fun h => ⟨h.1, h.2 rfl⟩⟩) fun _ => id
  · -- if nothing was consumed before G, both sides reported Pending and G returns
    have hle : rwork t ≤ rwork s := h.2.elim Nat.le_of_lt fun h => Nat.le_of_eq h.1
    exact (partG_effect t).mono (fun _ _ hr => ⟨hr.1, hr.2.trans hle h.1⟩) (fun _ => False.elim)
      fun _ ht => ht.1 ▸ ⟨h.1, h.2.resolve_right fun h => ht.2 h.2⟩

theorem rrPoll_terminates (fuel : Nat) (s : RR) (h : rwork s < fuel) : (rrPoll fuel s).1 ≠ .outOfFuel := by
  induction fuel generalizing s with
  | zero => cases h
  | succ fuel ih =>
    unfold rrPoll
    have hs := iter_effect s
    cases hi : iter s with
    | ret o s' => rw [hi] at hs; exact hs.1
    | next s' => rw [hi] at hs; exact ih s' (Nat.lt_of_lt_of_le (hs.2.resolve_right nofun) (Nat.le_of_lt_succ h))
    | again s' => rw [hi] at hs; exact ih s' (Nat.lt_of_lt_of_le hs.2 (Nat.le_of_lt_succ h))

theorem rrPoll_effect (fuel : Nat) (s : RR) : Spent s (rrPoll fuel s).1 (rrPoll fuel s).2 :=
  rrPoll_post (I := fun t => rwork t ≤ rwork s ∧ rpat t ≤ rpat s) (R := Spent s)
    (fun t ht => (iter_effect t).mono (fun _ _ h => h.2.trans ht.1 ht.2)
      (fun _ h => ⟨Nat.le_trans (h.2.elim Nat.le_of_lt fun h => h.2.elim) ht.1, Nat.le_trans h.1 ht.2⟩)
      (fun _ h => ⟨Nat.le_trans (Nat.le_of_lt h.2) ht.1, Nat.le_trans h.1 ht.2⟩))
    (fun _ ht => ⟨ht.1, ht.2, nofun⟩) fuel s ⟨.refl, .refl⟩

/-! `Prog`, `ProgFrom`, `NoInc`, `Within`, `RetOk`: what `Effect` says about `rwork`, as predicates of their own in the
vocabulary of `c09_reqrep_iteration_progress` (one measure, no patience). The proofs in this library use `Effect` and none
of them. `Prog` is the second and third clause of `Effect`, `ProgFrom` the same seen from the state the iteration started
in (both are instances of `Flow.Post`), `NoInc` and `Within` say only that no work is added, `RetOk` is the first half of
its first clause. -/

def Prog (post : RR → Prop) (s : RR) (f : Flow) : Prop :=
  match f with
  | .ret _ _ => True
  | .next s' => rwork s' < rwork s ∨ (rwork s' = rwork s ∧ post s')
  | .again s' => rwork s' < rwork s

def NoInc (s : RR) (f : Flow) : Prop :=
  match f with
  | .ret _ _ => True
  | .next s' => rwork s' ≤ rwork s
  | .again s' => rwork s' ≤ rwork s

theorem Prog.noInc {post : RR → Prop} {s : RR} {f : Flow} (h : Prog post s f) : NoInc s f :=
  Flow.Post.mono (R := fun _ _ => True) h (fun _ _ => id) (fun _ h => h.elim Nat.le_of_lt fun h => Nat.le_of_eq h.1)
    fun _ => Nat.le_of_lt

def ProgFrom (s0 : RR) (post : RR → Prop) (f : Flow) : Prop :=
  match f with
  | .ret _ _ => True
  | .next s' => rwork s' < rwork s0 ∨ (rwork s' = rwork s0 ∧ post s')
  | .again s' => rwork s' < rwork s0

theorem ProgFrom.andThen {s0 : RR} {K1 K2 : RR → Prop} {f : Flow} {g : RR → Flow}
    (hf : ProgFrom s0 K1 f) (hg : ∀ s1, Prog (fun s' => K1 s1 → K2 s') s1 (g s1)) :
    ProgFrom s0 K2 (f.andThen g) :=
  Flow.Post.andThen (R := fun _ _ => True) (A := fun s' => rwork s' < rwork s0) hf fun s1 h1 =>
    have hle : rwork s1 ≤ rwork s0 := h1.elim Nat.le_of_lt fun h => Nat.le_of_eq h.1
    Flow.Post.mono (hg s1) (fun _ _ => id)
      (fun _ h2 => h2.elim (fun h => .inl (Nat.lt_of_lt_of_le h hle)) fun h =>
        h1.imp (lt_of_eq_of_lt h.1) fun h' => ⟨h.1.trans h'.1, h.2 h'.2⟩)
      fun _ h2 => Nat.lt_of_lt_of_le h2 hle

def Within (bound : Nat) (f : Flow) : Prop :=
  match f with
  | .ret _ _ => True
  | .next s' => rwork s' ≤ bound
  | .again s' => rwork s' ≤ bound

theorem flushReplier_within (s : RR) (r : Replier) (hr : s.server = some r) (after : RR → Flow) (bound : Nat)
    (hafter : ∀ t, rwork t ≤ rwork s → Within bound (after t)) : Within bound (flushReplier s r after) := by
  rcases flushReplier_effect s r hr after with ⟨t, h, _⟩ | ⟨t, h, hw, _⟩
  · rw [h]; trivial
  · rw [h]; exact hafter t hw

def RetOk (f : Flow) : Prop :=
  match f with
  | .ret o _ => o ≠ .outOfFuel
  | _ => True

theorem RetOk.andThen {f : Flow} {g : RR → Flow} (hf : RetOk f) (hg : ∀ s, RetOk (g s)) : RetOk (f.andThen g) := by
  cases f with
  | ret o s => exact hf
  | again s => trivial
  | next s => exact hg s

end Selium.Route
