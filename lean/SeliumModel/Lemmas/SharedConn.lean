/-
Re-establishment under a `reconnect()` that dials only when the connection is closed (guard `true`; Props/C12 puts the
regenerated guard in its place).
-/
import SeliumModel.Client.SharedConn

namespace Selium.SharedConn

theorem reconnect_regs (b : Bool) (s : St) : (reconnect b s).regs = s.regs := by
  unfold reconnect; split <;> rfl

theorem reconnect_of_open {s : St} (h : s.closed = false) : reconnect true s = s := by
  rw [reconnect, h]; rfl

theorem reconnect_closed (s : St) : (reconnect true s).closed = false := by
  cases h : s.closed
  · rw [reconnect_of_open h, h]
  · rw [reconnect, h]; rfl

theorem reestablish_sibling (s : St) (i j : Nat) (h : working s j) : working (reestablish true s i) j := by
  rw [reestablish, reconnect_of_open h.1]
  refine ⟨h.1, ?_⟩
  show (s.regs.set i s.current)[j]? = some s.current
  by_cases hij : i = j
  · rw [hij, List.getElem?_set_self (List.getElem?_eq_some_iff.1 h.2).1]
  · rw [List.getElem?_set_ne hij, h.2]

theorem reestablish_self (s : St) (i : Nat) (hi : i < s.regs.length) : working (reestablish true s i) i := by
  refine ⟨reconnect_closed s, List.getElem?_set_self ?_⟩
  rw [reconnect_regs]; exact hi

theorem reestablish_length (b : Bool) (s : St) (i : Nat) : (reestablish b s i).regs.length = s.regs.length := by
  rw [reestablish, List.length_set, reconnect_regs]

theorem run_working (order : List Nat) (s : St) (j : Nat) (hlt : j < s.regs.length) (h : working s j ∨ j ∈ order) :
    working (run true s order) j := by
  induction order generalizing s with
  | nil => exact h.resolve_right List.not_mem_nil
  | cons x xs ih =>
    refine ih (reestablish _ s x) (by rw [reestablish_length]; exact hlt) ?_
    rcases h with h | h
    · exact .inl (reestablish_sibling s x j h)
    · rcases List.mem_cons.1 h with rfl | h
      · exact .inl (reestablish_self s j hlt)
      · exact .inr h

end Selium.SharedConn
