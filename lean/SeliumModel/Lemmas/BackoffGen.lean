/-
The definitions the translator prints from `client/src/keep_alive/backoff_strategy.rs` (`Gen/BackoffFn.lean`:
`saturating_mul`, `BackoffStrategyIter::next`) are the hand-written model (`Backoff.lean`), for every argument.
So the C13 theorems are theorems about what the source says on this run, not only about a model kept in step
with it by sampling.
-/
import SeliumModel.Gen.BackoffFn
import SeliumModel.Lemmas.Backoff

namespace Selium.Backoff
open Selium.Gen

def toGenStrategy : Strategy → BackoffFn.Strategy
  | .linear => .Linear
  | .constant => .Constant
  | .exponential f => .Exponential f

def toGenAttempt (a : Attempt) : BackoffFn.NextAttempt :=
  { duration := a.duration, attempt_num := a.attemptNum, max_attempts := a.maxAttempts }

/-- the bounds the generated code writes as powers of two are the model's `uN::MAX` -/
theorem lt_two_pow_128 (x : Nat) : x < 2 ^ 128 ↔ x ≤ U128MAX := Nat.lt_succ_iff
theorem lt_two_pow_64 (x : Nat) : x < 2 ^ 64 ↔ x ≤ U64MAX := Nat.lt_succ_iff

theorem rs_checkedMul128 (a b : Nat) : Rs.checkedMul 128 a b = checkedMul128 a b := by
  simp only [Rs.checkedMul, checkedMul128, lt_two_pow_128]

theorem rs_checkedPow128 (b e : Nat) : Rs.checkedPow 128 b e = checkedPow128 b e := by
  induction e with
  | zero => rfl
  | succ e ih =>
    unfold Rs.checkedPow checkedPow128
    rw [ih]
    cases checkedPow128 b e with
    | none => rfl
    | some p => exact rs_checkedMul128 p b

theorem gen_saturating_mul_eq (d m : Nat) : BackoffFn.saturating_mul d m = satMul d m := by
  unfold BackoffFn.saturating_mul satMul
  rw [rs_checkedMul128]
  cases checkedMul128 d m with
  | none => rfl
  | some n =>
    -- the nanoseconds part is below 10^9 < 2^32: the cast to `u32` does nothing
    have hm : Rs.cast 32 (n % 1000000000) = n % NANOS :=
      Nat.mod_eq_of_lt (Nat.lt_trans (Nat.mod_lt _ (by decide)) (by decide))
    simp only [Rs.tryFrom, lt_two_pow_64, hm]
    show (match (if n / NANOS ≤ U64MAX then some (n / NANOS) else none) with
      | some secs => Rs.durationNew secs (n % NANOS) | none => Rs.DMAX) = _
    by_cases h : n / NANOS ≤ U64MAX
    · rw [if_pos h, if_pos h]; rfl
    · rw [if_neg h, if_neg h]; rfl

/-- `hatt`: the range of the Rust type; `h1`: every counter value the iterator can hold (it starts at 1 and only grows;
    at 0 the Rust code would underflow in `current_attempt - 1`). The proof does not use `h1`, the equation holds at 0 as
    well: `h1` marks the range on which the printed `Nat` subtraction `cur - 1` is the Rust one, and
    `c13_generated_code_is_the_model` (Props/C13Gen) carries `1 ≤ cur` through its induction only to supply it. -/
theorem gen_next_eq (c : Cfg) (cur : Nat) (h1 : 1 ≤ cur) (hatt : c.maxAttempts ≤ U32MAX) :
    BackoffFn.next cur c.maxAttempts c.maxDuration c.step (toGenStrategy c.strategy)
      = match next c cur with
        | none => (none, cur)
        | some (a, cur') => (some (toGenAttempt a), cur') := by
  unfold BackoffFn.next next
  by_cases hgt : cur > c.maxAttempts
  · simp [hgt]
  · have hcast : Rs.cast 32 (cur - 1) = cur - 1 :=
      Nat.mod_eq_of_lt (Nat.lt_of_le_of_lt (Nat.sub_le _ _) (Nat.lt_succ_of_le (Nat.le_trans (Nat.not_lt.1 hgt) hatt)))
    have hnum : Rs.cast 32 cur = cur % (U32MAX + 1) := by unfold Rs.cast U32MAX; rfl
    simp only [hgt, if_false, toGenAttempt, hcast, hnum, gen_saturating_mul_eq, rs_checkedPow128]
    unfold clamp rawDelay
    cases c.strategy <;> cases c.maxDuration <;> rfl

end Selium.Backoff
