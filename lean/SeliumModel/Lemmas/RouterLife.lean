import SeliumModel.Lemmas.Router
import SeliumModel.Lemmas.Life
/- `Router` (the requestors' sinks, keyed by client id): once an entry has been evicted nothing is asked of it again. -/
namespace Selium.Sink
variable {α : Type}

/-- what an event asks of which requestor sink -/
def sid : Ev α → Option (Nat × Bool)
  | .ready i _ => some (i, false)
  | .send i _ _ => some (i, false)
  | .flush i _ => some (i, false)
  | .close i _ => some (i, false)
  | .dropped i => some (i, true)
  | _ => none

section
variable {ans : Child α → Ans} {step : Child α → Child α} {ev : Nat → Ans → Ev α}
variable {todo out : List (Child α)} {res : PollRes} {evs : List (Ev α)}

theorem Scan.stretch (h : Scan ans step ev todo res out evs)
    (hev : ∀ i a, sid (ev i a) = some (i, false)) (hid : ∀ c, (step c).id = c.id) :
    Stretch sid (todo.map (·.id)) (out.map (·.id)) evs := by
  have call : ∀ (c : Child α) (l : List Nat) a, Stretch sid (c.id :: l) (c.id :: l) [ev c.id a] := fun c l a =>
    .call (.head _) fun e he => List.mem_singleton.mp he ▸ hev _ _
  induction h with
  | nil => exact Stretch.none _ fun _ h => nomatch h
  | @pending todo rest c hp ha => exact (call c _ _).perm (hp.map _) (by rw [List.map_cons, hid])
  | @err todo rest out c res evs hp ha _ ih =>
    exact (((call c _ _).trans (.drop_head _ rfl)).trans ih).perm (hp.map _) (.refl _)
  | @ready todo rest out c res evs hp ha _ ih =>
    exact ((call c _ _).trans (ih.frame c.id)).perm (hp.map _) (by rw [List.map_cons, hid])

theorem Scan.caused {γ : Type} (h : Scan ans step ev todo res out evs) (f : Ev α → γ) {view : γ → Option (Nat × Bool)}
    (cause : Nat → γ → Prop) (hf : ∀ e, view (f e) = sid e) (hev : ∀ i a, sid (ev i a) = some (i, false))
    (hc : ∀ k, cause k (f (ev k .err))) : ∀ seen, CausedG view cause seen (evs.map f) := by
  have hcall : ∀ (seen : List γ) i a n, view (f (ev i a)) = some (n, true) → ∃ c ∈ seen, cause n c :=
    fun seen i a n hv => by rw [hf, hev] at hv; cases hv
  induction h with
  | nil => exact fun _ => trivial
  | pending => exact fun _ => ⟨hcall _ _ _, trivial⟩
  | @err _ _ _ c _ _ _ _ _ ih =>
    refine fun seen => ⟨hcall _ _ _, fun n hv => ?_, ih _⟩
    rw [hf] at hv
    injection hv with hv; injection hv with hv
    exact ⟨_, List.mem_append_right _ (List.mem_singleton_self _), hv ▸ hc c.id⟩
  | ready _ _ _ ih => exact fun _ => ⟨hcall _ _ _, ih _⟩

end

theorem pickLoop_quiet (ans : Child α → Ans) (step : Child α → Child α) (ev : Nat → Ans → Ev α)
    (hev : ∀ i a, sid (ev i a) = some (i, false)) (hid : ∀ c, (step c).id = c.id)
    (o : List Nat) (done todo : List (Child α)) :
    ∀ dead : List Nat, (todo.map (·.id)).Nodup → (∀ c ∈ todo, c.id ∉ dead) →
      QuietG sid dead (pickLoop ans step ev o done todo).2.2.1 ∧
      (∀ k ∈ touchedG sid (pickLoop ans step ev o done todo).2.2.1, ∃ c ∈ todo, c.id = k) ∧
      (∀ c' ∈ (pickLoop ans step ev o done todo).2.1, c' ∈ done ∨
        ((∃ c ∈ todo, c.id = c'.id) ∧ c'.id ∉ droppedG sid (pickLoop ans step ev o done todo).2.2.1)) := by
  intro dead hnd hdead
  obtain ⟨kept, hout, hs⟩ := pickLoop_scan_from ans step ev o done todo
  obtain ⟨q, t, k, _⟩ := hs.stretch hev hid dead hnd fun n hn => by obtain ⟨c, hc, rfl⟩ := List.mem_map.mp hn; exact hdead c hc
  refine ⟨q, fun n hn => List.mem_map.mp (t n hn), fun c' hc' => ?_⟩
  rw [hout] at hc'
  exact (List.mem_append.mp hc').imp_right fun h => (k _ (List.mem_map_of_mem h)).imp_left List.mem_map.mp

/-- `Stretch` on the ids of the sinks (`OpOk.stretch`, `OpOk.of_stretch`), for one operation on the requestors' sinks -/
def OpOk (sinks sinks' : List (Child RFrame)) (evs : List (Ev RFrame)) : Prop :=
  ∀ dead : List Nat, (sinks.map (·.id)).Nodup → (∀ c ∈ sinks, c.id ∉ dead) →
    QuietG sid dead evs ∧ (∀ k ∈ touchedG sid evs, ∃ c ∈ sinks, c.id = k) ∧
    (∀ c' ∈ sinks', (∃ c ∈ sinks, c.id = c'.id) ∧ c'.id ∉ droppedG sid evs) ∧ (sinks'.map (·.id)).Nodup

theorem OpOk.stretch {a b : List (Child RFrame)} {evs : List (Ev RFrame)} (h : OpOk a b evs) :
    Stretch sid (a.map (·.id)) (b.map (·.id)) evs := by
  intro dead hnd hdead
  obtain ⟨q, t, k, n⟩ := h dead hnd (fun c hc => hdead c.id (List.mem_map_of_mem hc))
  refine ⟨q, fun m hm => ?_, fun m hm => ?_, n⟩
  · obtain ⟨c, hc, rfl⟩ := t m hm; exact List.mem_map_of_mem hc
  · obtain ⟨c', hc', rfl⟩ := List.mem_map.mp hm
    obtain ⟨⟨c, hc, hid⟩, hd⟩ := k c' hc'
    exact ⟨hid ▸ List.mem_map_of_mem hc, hd⟩

theorem OpOk.of_stretch {a b : List (Child RFrame)} {evs : List (Ev RFrame)} (h : Stretch sid (a.map (·.id)) (b.map (·.id)) evs) :
    OpOk a b evs := by
  intro dead hnd hdead
  obtain ⟨q, t, k, n⟩ := h dead hnd (fun m hm => by obtain ⟨c, hc, rfl⟩ := List.mem_map.mp hm; exact hdead c hc)
  refine ⟨q, fun m hm => List.mem_map.mp (t m hm), fun c' hc' => ?_, n⟩
  obtain ⟨hm, hd⟩ := k c'.id (List.mem_map_of_mem hc')
  exact ⟨List.mem_map.mp hm, hd⟩

theorem OpOk.refl (sinks : List (Child RFrame)) (evs : List (Ev RFrame)) (h : ∀ e ∈ evs, sid e = none) : OpOk sinks sinks evs :=
  .of_stretch (Stretch.none _ h)

theorem OpOk.trans {a b c : List (Child RFrame)} {e1 e2 : List (Ev RFrame)} (h1 : OpOk a b e1) (h2 : OpOk b c e2) :
    OpOk a c (e1 ++ e2) := .of_stretch (h1.stretch.trans h2.stretch)

theorem Scan.opOk {ans : Child RFrame → Ans} {step : Child RFrame → Child RFrame} {ev : Nat → Ans → Ev RFrame}
    {es out : List (Child RFrame)} {res : PollRes} {evs : List (Ev RFrame)} (h : Scan ans step ev es res out evs)
    (hev : ∀ i a, sid (ev i a) = some (i, false)) (hid : ∀ c, (step c).id = c.id) : OpOk es out evs :=
  .of_stretch (h.stretch hev hid)

theorem routerReady_opOk (o : List Nat) (es : List (Child RFrame)) : OpOk es (routerReady o es).2.1 (routerReady o es).2.2.1 :=
  (pickLoop_scan _ _ _ o es).opOk (fun _ _ => rfl) (fun _ => rfl)
theorem routerFlush_opOk (o : List Nat) (es : List (Child RFrame)) : OpOk es (routerFlush o es).2.1 (routerFlush o es).2.2.1 :=
  (pickLoop_scan _ _ _ o es).opOk (fun _ _ => rfl) (fun _ => rfl)

theorem routerSend_opOk (f : RFrame) (es : List (Child RFrame)) : OpOk es (routerSend f es).2.1 (routerSend f es).2.2 := by
  refine routerSend_cases (motive := fun r => OpOk es r.2.1 r.2.2) f es (fun _ => .refl es [] fun _ h => nomatch h) ?_ ?_
  · -- delivered
    intro hd p v c _ _ _ hc _
    refine .of_stretch ?_
    rw [map_afterSend (·.id) fun _ _ => rfl]
    exact .call (List.mem_map_of_mem hc) fun e he => List.mem_singleton.mp he ▸ rfl
  · -- refused
    intro hd p v c _ _ _ hc _
    have hm := List.mem_map_of_mem (f := (·.id)) hc
    refine .of_stretch (Stretch.trans (view := sid) (e1 := [_]) (.call hm fun e he => List.mem_singleton.mp he ▸ rfl) (.drop rfl hm fun hnd => ?_))
    refine ⟨hnd.sublist (List.filter_sublist.map _), fun k hk => ?_⟩
    obtain ⟨d, hd', rfl⟩ := List.mem_map.mp hk
    exact ⟨List.mem_map_of_mem (List.mem_filter.mp hd').1, by simpa using (List.mem_filter.mp hd').2⟩

end Selium.Sink
