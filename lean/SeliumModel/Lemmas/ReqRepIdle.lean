import SeliumModel.Lemmas.ReqRepParked
/-
C09, request/reply half: the early park (`idle`: nothing connected, nothing buffered) does not flush, and does not
need to. `IdleSafe`: every requestor sink is flushed and no reply is held back, unless a replier is bound or a request is
buffered (and then the router cannot take the early park). Every way a replier gets unbound with no request buffered passes
through a completed flush of the requestor sinks first. Hence a poll that ends `idle` leaves every requestor sink flushed.
-/
namespace Selium.Route
open Selium.Sink

def IdleSafe (s : RR) : Prop :=
  (SinksFlushed s ∧ s.bufRep = none) ∨ s.server.isSome = true ∨ s.bufReq.isSome = true

theorem idleSafeReads : Reads (fun s => (s.sinks, s.server.isSome, s.bufReq.isSome, s.bufRep)) IdleSafe := fun s t h e => by
  simp only [Prod.mk.injEq] at e
  obtain ⟨h1, h2, h3, h4⟩ := e
  unfold IdleSafe SinksFlushed at *
  rw [h1, h2, h3, h4]; exact h

theorem IdleSafe.of_flushed {t : RR} (hc : SinksFlushed t) (hb : t.bufRep = none) : IdleSafe t := .inl ⟨hc, hb⟩

theorem IdleSafe.of_bound {t : RR} (hs : t.server.isSome = true) : IdleSafe t := .inr (.inl hs)

theorem IdleSafe.of_request {t : RR} (hs : t.bufReq.isSome = true) : IdleSafe t := .inr (.inr hs)

theorem IdleSafe.init : IdleSafe ({} : RR) := IdleSafe.of_flushed (by intro k hk; cases hk) rfl

theorem flushRouter_idleSafe (s : RR) (h : IdleSafe s) : IdleSafe (flushRouter s).2 := by
  refine h.imp_left (And.imp_left ((pickLoop_scan _ _ _ s.ko s.sinks).all fun c hc => ?_))
  simp only [Child.afterFlush]
  split <;> simp [hc]

/-- what a block leaves behind satisfies the invariant (`N`, which may say more, where it falls through), and if it
    returns `idle` the requestor sinks are flushed -/
abbrev IdleSafe.Post (N : RR → Prop) : Flow → Prop := Flow.Post (fun o t => IdleSafe t ∧ (o = .idle → SinksFlushed t)) N IdleSafe

theorem partA_idleSafe (s : RR) (h : IdleSafe s) : IdleSafe.Post IdleSafe (partA s) := by
  fun_cases partA s
  · exact ⟨IdleSafe.of_bound rfl, nofun⟩
  · exact IdleSafe.of_request (Option.isSome_iff_exists.mpr ⟨_, ‹s.bufReq = _›⟩)
  · exact IdleSafe.of_bound rfl
  · exact IdleSafe.of_bound rfl
  · exact h

theorem partB_idleSafe (s : RR) (h : IdleSafe s) : IdleSafe.Post IdleSafe (partB s) :=
  partB_post s fun _ _ _ => ⟨⟨idleSafeReads h rfl, nofun⟩, idleSafeReads h rfl, idleSafeReads h rfl⟩

theorem adoptSock_idleSafe (s : RR) (sock : RSock) (q : List RSock) (h : IdleSafe s) : IdleSafe (adoptSock s sock q) := by
  fun_cases adoptSock s sock q
  · refine h.imp_left (And.imp_left fun hc k hk => ?_)
    rcases List.mem_append.1 hk with hk | hk
    · exact hc k hk
    · cases List.mem_singleton.1 hk; rfl
  · exact idleSafeReads h (by simp [‹s.server = _›])
  · exact IdleSafe.of_bound rfl

theorem partH_idleSafe (s : RR) (h : IdleSafe s) : IdleSafe.Post IdleSafe (partH s) := by
  fun_cases partH s
  · exact adoptSock_idleSafe s _ _ h
  · exact ⟨flushRouter_idleSafe s h, nofun⟩
  · exact ⟨flushRouter_idleSafe s h, nofun⟩
  case case4 hidle =>
    refine ⟨idleSafeReads h rfl, fun _ => ?_⟩
    simp only [Bool.and_eq_true, Option.isNone_iff_eq_none] at hidle
    rcases h with hc | hs | hq'
    · exact hc.1
    · rw [hidle.1.1.2] at hs; cases hs
    · rw [hidle.1.2] at hq'; cases hq'
  · exact idleSafeReads h rfl

theorem partD_idleSafe (s : RR) (h : IdleSafe s) : IdleSafe.Post IdleSafe (partD s) := by
  fun_cases partD s
  case case4 | case5 => exact ⟨IdleSafe.of_bound rfl, nofun⟩
  case case6 _ hb _ _ _ hfl =>
    -- the replier has finished and the requestor sinks are flushed: nothing is held back
    exact IdleSafe.of_flushed (flushRouter_flushed _ hfl) hb
  case case7 => exact h
  all_goals exact IdleSafe.of_bound rfl

theorem partE_idleSafe (s : RR) (h : IdleSafe s) : IdleSafe.Post (fun t => IdleSafe t ∧ t.bufRep = none) (partE s) := by
  fun_cases partE s
  case case1 hb => exact ⟨h, hb⟩
  -- a reply is buffered, so `h` holds by its second or third clause, which routing does not touch
  case case2 f hb _ => exact ⟨.inr (h.resolve_left fun hc => by rw [hb] at hc; cases hc.2), nofun⟩
  case case3 f hb _ => exact ⟨.inr (h.resolve_left fun hc => by rw [hb] at hc; cases hc.2), rfl⟩

theorem flushReplier_idleSafe {N : RR → Prop} (s : RR) (r : Replier) (after : RR → Flow) (hc : SinksFlushed s) (hb : s.bufRep = none)
    (hafter : ∀ t, SinksFlushed t → t.bufRep = none → IdleSafe.Post N (after t)) : IdleSafe.Post N (flushReplier s r after) :=
  flushReplier_post s r after fun _ _ => ⟨⟨IdleSafe.of_flushed hc hb, nofun⟩, hafter _ hc hb⟩

theorem partF_idleSafe (s : RR) (h : IdleSafe s) (hb : s.bufRep = none) : IdleSafe.Post (fun t => IdleSafe t ∧ t.bufRep = none) (partF s) := by
  fun_cases partF s
  case case1 => exact ⟨IdleSafe.of_request rfl, hb⟩
  case case5 => exact ⟨flushRouter_idleSafe _ (idleSafeReads h rfl), nofun⟩
  case case6 hfl r _ =>
    exact flushReplier_idleSafe _ r _ (flushRouter_flushed _ hfl) hb fun t htc htb => ⟨IdleSafe.of_flushed htc htb, htb⟩
  case case7 hfl _ => exact ⟨IdleSafe.of_flushed (flushRouter_flushed _ hfl) hb, hb⟩
  all_goals exact ⟨idleSafeReads h rfl, hb⟩

theorem partG_idleSafe (s : RR) (h : IdleSafe s) (hb : s.bufRep = none) : IdleSafe.Post IdleSafe (partG s) := by
  fun_cases partG s
  · exact ⟨flushRouter_idleSafe s h, nofun⟩
  case case2 hfl r _ =>
    exact flushReplier_idleSafe _ r _ (flushRouter_flushed s hfl) hb fun t htc htb => ⟨IdleSafe.of_flushed htc htb, fun _ => htc⟩
  case case3 hfl _ => exact ⟨IdleSafe.of_flushed (flushRouter_flushed s hfl) hb, fun _ => flushRouter_flushed s hfl⟩
  · exact h

theorem iter_idleSafe (s : RR) (h : IdleSafe s) : IdleSafe.Post IdleSafe (iter s) :=
  iter_post s (partA_idleSafe _ (idleSafeReads h rfl)) partB_idleSafe partH_idleSafe partD_idleSafe partE_idleSafe
    (fun t ht => partF_idleSafe t ht.1 ht.2) (fun t ht => partG_idleSafe t ht.1 ht.2)

theorem rrPoll_idleSafe (fuel : Nat) (s : RR) (h : IdleSafe s) :
    IdleSafe (rrPoll fuel s).2 ∧ ((rrPoll fuel s).1 = .idle → SinksFlushed (rrPoll fuel s).2) :=
  rrPoll_post iter_idleSafe (fun _ h => ⟨h, nofun⟩) fuel s h

theorem rrExec_idleSafe (history : List REvent) : IdleSafe (rrExec history) :=
  rrExec_inv IdleSafe.init idleSafeReads.env (fun fuel s h => (rrPoll_idleSafe fuel s h).1) history

end Selium.Route
