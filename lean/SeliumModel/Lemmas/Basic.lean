import SeliumModel.Wire.Basic

namespace Selium

namespace Res
variable {α β : Type}

theorem map_map {γ : Type} (g : β → γ) (f : α → β) (r : Res α) : (r.map f).map g = r.map (g ∘ f) := by
  cases r <;> rfl

theorem ite_ne_panic {c : Prop} [Decidable c] {x y : Res α} {s : String} (hx : x ≠ .panic s) (hy : y ≠ .panic s) :
    (if c then x else y) ≠ .panic s := by
  split <;> assumption

end Res

@[simp] theorem leBytes_length (w n : Nat) : (leBytes w n).length = w := by
  induction w generalizing n with
  | zero => rfl
  | succ w ih => simp [leBytes, ih]

theorem leNat_leBytes (w n : Nat) (h : n < 256 ^ w) : leNat (leBytes w n) = n := by
  induction w generalizing n with
  | zero => exact (Nat.lt_one_iff.1 h).symm
  | succ w ih =>
    rw [leBytes, leNat, ih _ (Nat.div_lt_of_lt_mul (Nat.pow_succ' ▸ h)),
      UInt8.toNat_ofNat_of_lt' (Nat.mod_lt n (by decide))]
    exact Nat.mod_add_div n 256

theorem leNat_lt (b : Bytes) : leNat b < 256 ^ b.length := by
  induction b with
  | nil => simp [leNat]
  | cons x xs ih =>
    simp only [leNat, List.length_cons, Nat.pow_succ]
    have := x.toNat_lt
    omega

@[simp] theorem beBytes_length (w n : Nat) : (beBytes w n).length = w := by
  simp [beBytes]

theorem beNat_beBytes (w n : Nat) (h : n < 256 ^ w) : beNat (beBytes w n) = n := by
  simp [beNat, beBytes, leNat_leBytes w n h]

end Selium
