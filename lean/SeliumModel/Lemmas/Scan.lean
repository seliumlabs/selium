import SeliumModel.Sink.Router
import SeliumModel.Lemmas.List
/-
`FanoutMany`'s `poll_ready` / `poll_flush` / `poll_close` (`pollLoop`: vector order, `swap_remove`), its `start_send`
(`sendLoop`) and `Router`'s `poll_ready` / `poll_flush` (`pickLoop`: `HashMap::retain`, order given by an oracle) are
one operation: the entries are asked in SOME order until one answers Pending; an entry that answers Err is dropped,
one that answers Ready is advanced and kept. The order is all they differ in, and nothing proved of them depends on
it. `Scan` says this once, without the accumulator (`done`) the loops are written with; the `*_scan_from` theorems
are the only place the loops are unfolded, and everything else about them is a rule induction over `Scan`.
-/
namespace Selium.Sink
variable {α : Type}

/-- `Scan ans step ev todo res out evs`: asking the entries of `todo` in some order can end with result `res`, entries
    `out` and events `evs` -/
inductive Scan (ans : Child α → Ans) (step : Child α → Child α) (ev : Nat → Ans → Ev α) :
    List (Child α) → PollRes → List (Child α) → List (Ev α) → Prop
  | nil : Scan ans step ev [] .ready [] []
  | pending {todo rest : List (Child α)} {c : Child α} (hp : todo.Perm (c :: rest)) (ha : ans c = .pending) :
      Scan ans step ev todo .pending (step c :: rest) [ev c.id .pending]
  | err {todo rest out : List (Child α)} {c : Child α} {res : PollRes} {evs : List (Ev α)}
      (hp : todo.Perm (c :: rest)) (ha : ans c = .err) (h : Scan ans step ev rest res out evs) :
      Scan ans step ev todo res out (ev c.id .err :: .dropped c.id :: evs)
  | ready {todo rest out : List (Child α)} {c : Child α} {res : PollRes} {evs : List (Ev α)}
      (hp : todo.Perm (c :: rest)) (ha : ans c = .ready) (h : Scan ans step ev rest res out evs) :
      Scan ans step ev todo res (step c :: out) (ev c.id .ready :: evs)

theorem rotateLast_perm {β : Type} (rest : List β) : (rotateLast rest).Perm rest := by
  unfold rotateLast
  cases h : rest.getLast? with
  | none => rw [List.getLast?_eq_none_iff.mp h]
  | some l =>
    obtain ⟨ys, rfl⟩ := List.getLast?_eq_some_iff.mp h
    rw [List.dropLast_concat]
    exact (List.perm_append_singleton l ys).symm

section
variable (ans : Child α → Ans) (step : Child α → Child α) (ev : Nat → Ans → Ev α)

theorem pollLoop_scan_from (done todo : List (Child α)) :
    ∃ out, (pollLoop ans step ev done todo).2.1 = done ++ out ∧
      Scan ans step ev todo (pollLoop ans step ev done todo).1 out (pollLoop ans step ev done todo).2.2 := by
  fun_induction pollLoop ans step ev done todo with
  | case1 done => exact ⟨[], (List.append_nil _).symm, .nil⟩
  | case2 done c rest ha => exact ⟨_, rfl, .pending (.refl _) ha⟩
  | case3 done c rest ha _ ih => exact ih.imp fun _ h => ⟨h.1, .err ((rotateLast_perm rest).symm.cons c) ha h.2⟩
  | case4 done c rest ha ih =>
    obtain ⟨out, ho, h⟩ := ih
    exact ⟨step c :: out, ho.trans (List.append_assoc ..), .ready (.refl _) ha h⟩

theorem pollLoop_scan (es : List (Child α)) :
    Scan ans step ev es (pollLoop ans step ev [] es).1 (pollLoop ans step ev [] es).2.1 (pollLoop ans step ev [] es).2.2 := by
  obtain ⟨out, ho, h⟩ := pollLoop_scan_from ans step ev [] es
  exact ho ▸ h

theorem pickLoop_scan_from (o : List Nat) (done todo : List (Child α)) :
    ∃ out, (pickLoop ans step ev o done todo).2.1 = done ++ out ∧
      Scan ans step ev todo (pickLoop ans step ev o done todo).1 out (pickLoop ans step ev o done todo).2.2.1 := by
  fun_induction pickLoop ans step ev o done todo with
  | case1 o done todo hnone =>
    -- `todo[choose o todo]? = none` only when `todo` is empty
    cases todo with
    | nil => exact ⟨[], rfl, .nil⟩
    | cons a l =>
      have : choose o (a :: l) < (a :: l).length := findIdx?_getD_lt _ (List.cons_ne_nil a l)
      rw [List.getElem?_eq_getElem this] at hnone; cases hnone
  | case2 o done todo c hget _ ha => exact ⟨_, rfl, .pending (perm_cons_eraseIdx hget) ha⟩
  | case3 o done todo c hget _ ha ih => exact ih.imp fun _ h => ⟨h.1, .err (perm_cons_eraseIdx hget) ha h.2⟩
  | case4 o done todo c hget _ ha ih =>
    obtain ⟨out, ho, h⟩ := ih
    exact ⟨step c :: out, ho.trans (List.append_assoc ..), .ready (perm_cons_eraseIdx hget) ha h⟩

theorem pickLoop_scan (o : List Nat) (es : List (Child α)) :
    Scan ans step ev es (pickLoop ans step ev o [] es).1 (pickLoop ans step ev o [] es).2.1
      (pickLoop ans step ev o [] es).2.2.1 := by
  obtain ⟨out, ho, h⟩ := pickLoop_scan_from ans step ev o [] es
  exact ho ▸ h

end

/-- `start_send` is a scan too: an entry that refuses the item "answers Err", one that accepts it "answers Ready" -/
theorem sendLoop_scan_from (x : α) (done todo : List (Child α)) :
    ∃ out, (sendLoop x done todo).1 = done ++ out ∧
      Scan (fun c => if c.sendOk then .ready else .err) (·.afterSend x) (fun i a => .send i x (a matches .ready))
        todo .ready out (sendLoop x done todo).2 := by
  fun_induction sendLoop x done todo with
  | case1 done => exact ⟨[], (List.append_nil _).symm, .nil⟩
  | case2 done c rest hs ih =>
    obtain ⟨out, ho, h⟩ := ih
    exact ⟨c.afterSend x :: out, ho.trans (List.append_assoc ..), .ready (.refl _) (if_pos hs) h⟩
  | case3 done c rest hs _ ih =>
    exact ih.imp fun _ h => ⟨h.1, .err ((rotateLast_perm rest).symm.cons c) (if_neg hs) h.2⟩

theorem sendLoop_scan (x : α) (es : List (Child α)) :
    Scan (fun c => if c.sendOk then .ready else .err) (·.afterSend x) (fun i a => .send i x (a matches .ready))
      es .ready (startSend x es).1 (startSend x es).2 := by
  obtain ⟨out, ho, h⟩ := sendLoop_scan_from x [] es
  exact ho ▸ h

theorem Child.afterFlush_flushed (c : Child α) (h : c.flushAns = .ready) : c.afterFlush.flushed = c.afterFlush.got.length :=
  if_pos h

section
variable {ans : Child α → Ans} {step : Child α → Child α} {ev : Nat → Ans → Ev α}
variable {todo out : List (Child α)} {res : PollRes} {evs : List (Ev α)}

/-- nothing new: an entry afterwards is an old one, advanced by an answer other than Err, or (after a Pending) not asked -/
theorem Scan.mem (h : Scan ans step ev todo res out evs) :
    ∀ c' ∈ out, ∃ c ∈ todo, (c' = step c ∧ ans c ≠ .err ∧ (res = .ready → ans c = .ready)) ∨ (c' = c ∧ res = .pending) := by
  induction h with
  | nil => nofun
  | @pending todo rest c hp ha =>
    intro c' h
    rcases List.mem_cons.mp h with rfl | h
    · exact ⟨c, hp.mem_iff.mpr (List.mem_cons_self ..), .inl ⟨rfl, by rw [ha]; nofun, nofun⟩⟩
    · exact ⟨c', hp.mem_iff.mpr (List.mem_cons_of_mem _ h), .inr ⟨rfl, rfl⟩⟩
  | err hp ha _ ih =>
    exact fun c' h => (ih c' h).imp fun d hd => ⟨hp.mem_iff.mpr (List.mem_cons_of_mem _ hd.1), hd.2⟩
  | @ready todo rest out c res evs hp ha _ ih =>
    intro c' h
    rcases List.mem_cons.mp h with rfl | h
    · exact ⟨c, hp.mem_iff.mpr (List.mem_cons_self ..), .inl ⟨rfl, by rw [ha]; nofun, fun _ => ha⟩⟩
    · exact (ih c' h).imp fun d hd => ⟨hp.mem_iff.mpr (List.mem_cons_of_mem _ hd.1), hd.2⟩

theorem Scan.all (h : Scan ans step ev todo res out evs) {P : Child α → Prop} (hstep : ∀ c, P c → P (step c))
    (hall : ∀ k ∈ todo, P k) : ∀ k ∈ out, P k := by
  intro k hk
  obtain ⟨c, hc, ⟨rfl, _⟩ | ⟨rfl, _⟩⟩ := h.mem k hk
  · exact hstep c (hall c hc)
  · exact hall k hc

theorem Scan.keeps (h : Scan ans step ev todo res out evs) :
    ∀ c ∈ todo, ans c ≠ .err → step c ∈ out ∨ (c ∈ out ∧ res = .pending) := by
  induction h with
  | nil => nofun
  | pending hp ha =>
    intro d hd _
    rcases List.mem_cons.mp (hp.mem_iff.mp hd) with rfl | hd
    · exact .inl (List.mem_cons_self ..)
    · exact .inr ⟨List.mem_cons_of_mem _ hd, rfl⟩
  | err hp ha _ ih =>
    intro d hd hne
    rcases List.mem_cons.mp (hp.mem_iff.mp hd) with rfl | hd
    · exact absurd ha hne
    · exact ih d hd hne
  | ready hp ha _ ih =>
    intro d hd hne
    rcases List.mem_cons.mp (hp.mem_iff.mp hd) with rfl | hd
    · exact .inl (List.mem_cons_self ..)
    · exact (ih d hd hne).imp (List.mem_cons_of_mem _) (.imp_left (List.mem_cons_of_mem _))

theorem Scan.ready_of_calm (h : Scan ans step ev todo res out evs) (hc : ∀ c ∈ todo, ans c ≠ .pending) :
    res = .ready := by
  induction h with
  | nil => rfl
  | pending hp ha => exact absurd ha (hc _ (hp.mem_iff.mpr (List.mem_cons_self ..)))
  | err hp ha _ ih => exact ih fun d hd => hc d (hp.mem_iff.mpr (List.mem_cons_of_mem _ hd))
  | ready hp ha _ ih => exact ih fun d hd => hc d (hp.mem_iff.mpr (List.mem_cons_of_mem _ hd))

theorem Scan.countP (h : Scan ans step ev todo res out evs) (p : Child α → Bool) (hp : ∀ c, p (step c) = p c) :
    out.countP p ≤ todo.countP p := by
  induction h with
  | nil => exact Nat.le_refl _
  | pending hp' ha => rw [hp'.countP_eq, List.countP_cons, List.countP_cons, hp]; exact Nat.le_refl _
  | err hp' ha _ ih => rw [hp'.countP_eq, List.countP_cons]; exact Nat.le_trans ih (Nat.le_add_right _ _)
  | ready hp' ha _ ih => rw [hp'.countP_eq, List.countP_cons, List.countP_cons, hp]; exact Nat.add_le_add_right ih _

/-- the ids are the keys of a `HashMap` -/
theorem Scan.nodup (h : Scan ans step ev todo res out evs) (hid : ∀ c, (step c).id = c.id)
    (hn : (todo.map (·.id)).Nodup) : (out.map (·.id)).Nodup := by
  rw [List.nodup_iff_count] at hn ⊢
  intro a
  have h1 := hn a
  rw [List.count_eq_countP, List.countP_map] at h1 ⊢
  exact Nat.le_trans (h.countP ((fun x => x == a) ∘ fun c => c.id) (fun c => by simp [hid])) h1

/-- for `w` the answers an entry still holds (`patience`, `pat3`) -/
theorem Scan.weight (h : Scan ans step ev todo res out evs) (w : Child α → Nat)
    (hle : ∀ c, w (step c) ≤ w c) (hlt : ∀ c, ans c = .pending → w (step c) < w c) :
    (out.map w).sum ≤ (todo.map w).sum ∧ (res = .pending → (out.map w).sum < (todo.map w).sum) := by
  induction h with
  | nil => exact ⟨Nat.le_refl _, nofun⟩
  | @pending todo rest c hp ha =>
    rw [(hp.map w).sum_nat]
    have := Nat.add_lt_add_right (hlt c ha) (rest.map w).sum
    exact ⟨Nat.le_of_lt this, fun _ => this⟩
  | @err todo rest out c res evs hp ha _ ih =>
    rw [(hp.map w).sum_nat]
    exact ⟨Nat.le_trans ih.1 (Nat.le_add_left _ _), fun h => Nat.lt_of_lt_of_le (ih.2 h) (Nat.le_add_left _ _)⟩
  | @ready todo rest out c res evs hp ha _ ih =>
    rw [(hp.map w).sum_nat]
    exact ⟨Nat.add_le_add (hle c) ih.1, fun h => Nat.add_lt_add_of_le_of_lt (hle c) (ih.2 h)⟩

theorem Scan.flushed (h : Scan Child.flushAns Child.afterFlush ev todo res out evs) (hr : res = .ready) :
    ∀ k ∈ out, k.flushed = k.got.length := by
  intro k hk
  obtain ⟨c, _, ⟨rfl, _, ha⟩ | ⟨_, hp⟩⟩ := h.mem k hk
  · exact c.afterFlush_flushed (ha hr)
  · rw [hr] at hp; cases hp

end

theorem startSend_mem (x : α) (sinks : List (Child α)) :
    ∀ c' ∈ (startSend x sinks).1, ∃ c ∈ sinks, c.sendOk = true ∧ c' = c.afterSend x := by
  intro c' h
  obtain ⟨c, hc, ⟨rfl, _, ha⟩ | ⟨_, hp⟩⟩ := (sendLoop_scan x sinks).mem c' h
  · refine ⟨c, hc, ?_, rfl⟩
    have := ha rfl
    split at this
    · assumption
    · cases this
  · cases hp

theorem startSend_keeps (x : α) (sinks : List (Child α)) :
    ∀ c ∈ sinks, c.sendOk = true → c.afterSend x ∈ (startSend x sinks).1 :=
  fun c hc hs => ((sendLoop_scan x sinks).keeps c hc (by rw [if_pos hs]; nofun)).resolve_right fun h => nomatch h.2

end Selium.Sink
