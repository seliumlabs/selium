import SeliumModel.Sink.Router
/-
`format!("{id}")` followed by `str::parse::<usize>()` / `parse::<u32>()` is the identity: the routing tag the server
writes is the one it reads back, and the request id a requestor writes is the one its reader task parses.
-/
namespace Selium.Sink

theorem foldl_digits_eq (l : List Char) (init : Nat) :
    l.foldl (fun acc c => acc * 10 + (c.toNat - '0'.toNat)) init = Nat.ofDigitChars 10 l init := by
  -- `Nat.ofDigitChars b` is by definition this fold with `b * acc` for `acc * 10`
  simp only [Nat.ofDigitChars_eq_foldl, Nat.mul_comm]

theorem toDigits_all_isDigit (n : Nat) : (Nat.toDigits 10 n).all Char.isDigit = true :=
  List.all_eq_true.mpr fun _ hc => Nat.isDigit_of_mem_toDigits (by decide) (by decide) hc

theorem toDigits_ne_plus_cons (n : Nat) (cs : List Char) : Nat.toDigits 10 n ≠ '+' :: cs := fun h =>
  absurd (Nat.isDigit_of_mem_toDigits (by decide) (by decide) (h ▸ List.mem_cons_self ..)) (by decide)

theorem parseUsize_eq (s : String) : parseUsize s = parseBelow 18446744073709551616 s := rfl

theorem parseBelow_toString_eq (lim n : Nat) : parseBelow lim (toString n) = if n < lim then some n else none := by
  unfold parseBelow
  simp only [Nat.toString_eq_repr, Nat.toList_repr]
  split
  · exact absurd ‹_› (toDigits_ne_plus_cons n _)
  · rw [foldl_digits_eq, Nat.ofDigitChars_ten_toDigits, toDigits_all_isDigit, List.isEmpty_eq_false_iff.mpr Nat.toDigits_ne_nil]
    rfl

theorem parseBelow_toString (lim n : Nat) (h : n < lim) : parseBelow lim (toString n) = some n := by
  rw [parseBelow_toString_eq, if_pos h]

theorem parseBelow_repr (lim n : Nat) (h : n < lim) : parseBelow lim n.repr = some n := by
  simpa using parseBelow_toString lim n h

theorem parseUsize_repr (n : Nat) (h : n < 18446744073709551616) : parseUsize n.repr = some n := by
  rw [parseUsize_eq]; exact parseBelow_repr _ n h

theorem parseUsize_toString (n : Nat) (h : n < 18446744073709551616) : parseUsize (toString n) = some n := by
  rw [parseUsize_eq]; exact parseBelow_toString _ n h

theorem parseUsize_toString_some (n m : Nat) (h : parseUsize (toString n) = some m) : m = n := by
  rw [parseUsize_eq, parseBelow_toString_eq] at h
  split at h
  · exact (Option.some.inj h).symm
  · cases h

end Selium.Sink
