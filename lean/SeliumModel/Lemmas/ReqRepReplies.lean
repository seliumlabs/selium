import SeliumModel.Lemmas.Router
import SeliumModel.Lemmas.ReqRepBlocks

namespace Selium.Route
open Selium.Sink

/-! ## Replies: each to its own requestor, once, none lost (`c02_replies_none_lost_each_to_its_requestor`) -/

/-- the frame handed to requestor `id` by a routing step, if any -/
def deliveredTo (id : Nat) (x : RFrame × Routed) : Option RFrame :=
  match x.2 with
  | .delivered cid g => if cid = id then some g else none
  | _ => none

theorem deliveredTo_eq_some {id : Nat} {x : RFrame × Routed} {g : RFrame} (h : deliveredTo id x = some g) :
    x.2 = .delivered id g := by
  unfold deliveredTo at h
  split at h
  · split at h
    · cases h; subst_vars; assumption
    · cases h
  · cases h

structure RepInv (s : RR) : Prop where
  /-- every reply taken from a replier has been dealt with, in order, or is the one buffered: none is dropped
      or overwritten -/
  replies : s.routed.map (·.1) ++ s.bufRep.toList = s.repTaken
  /-- ids are unique, so the entry `routerSend` finds by id is the addressee -/
  nodup : (s.sinks.map (·.id)).Nodup
  /-- what a connected requestor's sink was handed is exactly the replies routed to its id, in order -/
  sinks : ∀ k ∈ s.sinks, k.id < s.nextId ∧ k.got = s.routed.filterMap (deliveredTo k.id)
  /-- no reply went to an id not yet given out: a requestor that is adopted starts with `got = []` -/
  fresh : ∀ x ∈ s.routed, ∀ cid g, x.2 = .delivered cid g → cid < s.nextId

def repView (s : RR) := (s.routed, s.bufRep, s.repTaken, s.sinks, s.nextId)

theorem repReads : Reads repView RepInv := by
  intro s t h e
  simp only [repView, Prod.mk.injEq] at e
  obtain ⟨h1, h2, h3, h4, h5⟩ := e
  constructor
  · rw [h1, h2, h3]; exact h.replies
  · rw [h4]; exact h.nodup
  · rw [h4, h5, h1]; exact h.sinks
  · rw [h1, h5]; exact h.fresh

theorem repInv_pick (ans : Child RFrame → Ans) (step : Child RFrame → Child RFrame) (ev : Nat → Ans → Ev RFrame)
    (hstep : ∀ c, (step c).id = c.id ∧ (step c).got = c.got) (s : RR) (h : RepInv s) :
    RepInv { s with sinks := (pickLoop ans step ev s.ko [] s.sinks).2.1 } := by
  have hs := pickLoop_scan ans step ev s.ko s.sinks
  exact ⟨h.replies, hs.nodup (fun c => (hstep c).1) h.nodup,
    hs.all (fun c hc => by rw [(hstep c).1, (hstep c).2]; exact hc) h.sinks, h.fresh⟩

theorem flushRouter_rep (s : RR) (h : RepInv s) : RepInv (flushRouter s).2 :=
  repReads (repInv_pick Child.flushAns Child.afterFlush Ev.flush (fun _ => ⟨rfl, rfl⟩) s h) rfl

theorem adoptSock_rep (s : RR) (sock : RSock) (q : List RSock) (h : RepInv s) : RepInv (adoptSock s sock q) := by
  fun_cases adoptSock s sock q
  case case1 sink script =>
    -- a requestor takes the next client id: no entry has it, and no reply has been delivered to it
    refine ⟨h.replies, ?_, ?_, fun x hx cid g hr => Nat.lt_succ_of_lt (h.fresh x hx cid g hr)⟩
    · rw [List.map_append, List.nodup_append]
      refine ⟨h.nodup, List.pairwise_singleton .., fun a ha b hb => ?_⟩
      obtain ⟨k, hk, rfl⟩ := List.mem_map.mp ha
      exact List.mem_singleton.mp hb ▸ Nat.ne_of_lt (h.sinks k hk).1
    · intro k hk
      rcases List.mem_append.mp hk with hk | hk
      · exact ⟨Nat.lt_succ_of_lt (h.sinks k hk).1, (h.sinks k hk).2⟩
      · cases List.mem_singleton.mp hk
        refine ⟨Nat.lt_succ_self _, (List.filterMap_eq_nil_iff.mpr fun x hx => ?_).symm⟩
        unfold deliveredTo
        split
        · exact if_neg (Nat.ne_of_lt (h.fresh x hx _ _ ‹_›))
        · rfl
  all_goals exact repReads h rfl

theorem partH_rep (s : RR) (h : RepInv s) : RepInv (partH s).state := by
  fun_cases partH s
  · exact adoptSock_rep s _ _ h
  · exact flushRouter_rep s h
  · exact flushRouter_rep s h
  · exact repReads h rfl
  · exact repReads h rfl

theorem partD_rep (s : RR) (h : RepInv s) : RepInv (partD s).state := by
  fun_cases partD s
  case case1 r hb _ f q _ =>
    -- a reply is taken: only because nothing was buffered
    have := h.replies
    simp only [hb, Option.toList, List.append_nil] at this
    exact ⟨by simp [Flow.state, log, this], h.nodup, h.sinks, h.fresh⟩
  case case5 | case6 => exact repReads (flushRouter_rep _ (repReads h rfl)) rfl
  all_goals exact repReads h rfl

theorem filterMap_deliveredTo_append (id : Nat) (l : List (RFrame × Routed)) (x : RFrame × Routed) :
    (l ++ [x]).filterMap (deliveredTo id) = l.filterMap (deliveredTo id) ++ (deliveredTo id x).toList := by
  rw [List.filterMap_append]
  cases h : deliveredTo id x <;> simp [h]

theorem repInv_route {s : RR} (h : RepInv s) (f : RFrame) (hf : s.bufRep = some f) :
    RepInv { s with routed := s.routed ++ [(f, (routerSend f s.sinks).1)], bufRep := none, sinks := (routerSend f s.sinks).2.1 } := by
  have hrep : (s.routed ++ [(f, (routerSend f s.sinks).1)]).map (·.1) ++ (none : Option RFrame).toList = s.repTaken := by
    have := h.replies
    simp only [hf, Option.toList] at this
    simp [← this]
  refine ⟨hrep, ?_, ?_, ?_⟩
  · -- `nodup`
    refine routerSend_cases (motive := fun r => (r.2.1.map (·.id)).Nodup) f s.sinks (fun _ => h.nodup) ?_
      (fun _ _ _ _ _ _ _ _ _ => h.nodup.sublist (List.filter_sublist.map _))
    intro hd p v c _ _ _ _ _
    rw [map_afterSend (·.id) fun _ _ => rfl]
    exact h.nodup
  · -- `sinks`
    refine routerSend_cases f s.sinks ?_ ?_ ?_
      (motive := fun r => ∀ k ∈ r.2.1, k.id < s.nextId ∧ k.got = (s.routed ++ [(f, r.1)]).filterMap (deliveredTo k.id))
    · intro why k hk
      rw [filterMap_deliveredTo_append]
      simpa [deliveredTo] using h.sinks k hk
    · intro hd p v c _ _ _ hc hok k hk
      obtain ⟨d, hd', rfl⟩ := List.mem_map.mp hk
      have := h.sinks d hd'
      rw [filterMap_deliveredTo_append]
      by_cases hid : d.id = c.id
      · -- the addressee: ids are unique, so `d` is the entry found, whose sink accepts
        obtain rfl := eq_of_map_eq_of_nodup h.nodup hd' hc hid
        simpa [Child.afterSend, hok, deliveredTo] using this
      · simpa [hid, deliveredTo, Ne.symm hid] using this
    · intro hd p v c _ _ _ _ _ k hk
      rw [filterMap_deliveredTo_append]
      simpa [deliveredTo] using h.sinks k (List.mem_filter.mp hk).1
  · -- `fresh`
    intro x hx cid g hr
    rcases List.mem_append.mp hx with hx | hx
    · exact h.fresh x hx cid g hr
    · cases List.mem_singleton.mp hx
      obtain ⟨c, hc, rfl, _⟩ := routerSend_delivered_entry f s.sinks cid g hr
      exact (h.sinks c hc).1

theorem partE_rep (s : RR) (h : RepInv s) : RepInv (partE s).state := by
  have h1 := repInv_pick Child.readyAns Child.afterReady Ev.ready (fun c => ⟨rfl, rfl⟩) s h
  fun_cases partE s
  · exact h
  · exact repReads h1 rfl
  case case3 f hf _ => exact repReads (repInv_route h1 f hf) rfl

theorem partF_rep (s : RR) (h : RepInv s) : RepInv (partF s).state := by
  fun_cases partF s
  case case5 | case7 => exact repReads (flushRouter_rep _ (repReads h rfl)) rfl
  case case6 =>
    exact flushReplier_frame _ _ _ (fun _ _ => repReads (flushRouter_rep _ (repReads h rfl)) rfl) fun _ ht => repReads ht rfl
  all_goals exact repReads h rfl

theorem partG_rep (s : RR) (h : RepInv s) : RepInv (partG s).state := by
  fun_cases partG s
  case case2 =>
    exact flushReplier_frame _ _ _ (fun _ _ => repReads (flushRouter_rep s h) rfl) fun _ => id
  case case4 => exact h
  all_goals exact flushRouter_rep s h

theorem repInv : Invariant RepInv where
  init := ⟨rfl, by simp, by intro k hk; simp at hk, by intro x hx; simp at hx⟩
  env := repReads.env
  partA := repReads.partA
  partB := repReads.partB
  partH := partH_rep
  partD := partD_rep
  partE := partE_rep
  partF := partF_rep
  partG := partG_rep

/-! What a routing step recorded as "delivered to `cid`" was: a message whose `cid` header parses to `cid`, handed over with
    the tag stripped. An invariant of its own (`routed` only grows in block E), so that replies can be followed from the
    replier's stream to a requestor's sink across a whole history. -/

def RouteWf (s : RR) : Prop :=
  ∀ x ∈ s.routed, ∀ cid g, x.2 = .delivered cid g →
    ∃ hd p v, x.1 = .msg (some hd) p ∧ hd.get CID = some v ∧ parseUsize v = some cid ∧ g = stripCid hd p

theorem routeWfReads : Reads (·.routed) RouteWf := fun {s t} h (e : t.routed = s.routed) => by unfold RouteWf; rw [e]; exact h

theorem partE_wf (s : RR) (h : RouteWf s) : RouteWf (partE s).state := by
  fun_cases partE s
  case case3 f _ _ =>
    -- the reply is routed
    intro x hx cid g hr
    simp only [Flow.state, log, List.mem_append, List.mem_singleton] at hx
    rcases hx with hx | rfl
    · exact h x hx cid g hr
    · obtain ⟨hd, p, v, h1, h2, h3, h4, _⟩ := routerSend_delivered f _ cid g hr
      exact ⟨hd, p, v, h1, h2, h3, h4⟩
  all_goals exact routeWfReads h rfl

theorem routeWf : Invariant RouteWf where
  init := by intro x hx; simp at hx
  env := routeWfReads.env
  partA := routeWfReads.partA
  partB := routeWfReads.partB
  partH := routeWfReads.partH
  partD := routeWfReads.partD
  partE := partE_wf
  partF := routeWfReads.partF
  partG := routeWfReads.partG

theorem RepInv.got_taken {s : RR} (h : RepInv s) (hw : RouteWf s) :
    ∀ k ∈ s.sinks, ∀ g ∈ k.got, ∃ hd p v, .msg (some hd) p ∈ s.repTaken ∧ hd.get CID = some v ∧
      parseUsize v = some k.id ∧ g = stripCid hd p := by
  intro k hk g hg
  rw [(h.sinks k hk).2] at hg
  obtain ⟨x, hx, hdel⟩ := List.mem_filterMap.mp hg
  obtain ⟨hd, p, v, hx1, hget, hparse, hstrip⟩ := hw x hx k.id g (deliveredTo_eq_some hdel)
  refine ⟨hd, p, v, ?_, hget, hparse, hstrip⟩
  rw [← h.replies, ← hx1]
  exact List.mem_append_left _ (List.mem_map_of_mem hx)

end Selium.Route
